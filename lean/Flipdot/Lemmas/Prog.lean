/-
Interaction trees (`Prog`) in general.  `Prog.Conv` is the run semantics as a relation: the conversations
of a program are exactly its runs (`conv_of_run`, `Conv.run_repliesOf`).  `conv_of_run` is how a statement
about every run becomes one about every conversation, which is proved by induction on `Conv`.  Also: predicates
on all messages sent (`AllSends`) and on all conversations (`ConvsIn`), and how a controller classifies replies.
-/
import Flipdot.Model.Controller
namespace Flipdot

variable {α β : Type}

@[simp] theorem Prog.run_done (a : α) (s : List Reply) : (Prog.done a).run s = ([], .ok a) := by
  cases s <;> rfl
@[simp] theorem Prog.run_fail (s : List Reply) : (Prog.fail : Prog α).run s = ([], .proto) := by
  cases s <;> rfl
@[simp] theorem Prog.run_panic (p : Panic) (s : List Reply) : (Prog.panic p : Prog α).run s = ([], .panic p) := by
  cases s <;> rfl
@[simp] theorem Prog.run_outOfFuel (s : List Reply) : (Prog.outOfFuel : Prog α).run s = ([], .outOfFuel) := by
  cases s <;> rfl
@[simp] theorem Prog.run_send_nil (m : Msg) (k : Option Msg → Prog α) :
    (Prog.send m k).run [] = ([(m, none)], .starved) := rfl
@[simp] theorem Prog.run_send_bus (m : Msg) (k : Option Msg → Prog α) (rest : List Reply) :
    (Prog.send m k).run (.busError :: rest) = ([(m, some .busError)], .bus) := rfl
@[simp] theorem Prog.run_send_ok (m : Msg) (k : Option Msg → Prog α) (r : Option Msg) (rest : List Reply) :
    (Prog.send m k).run (.ok r :: rest) =
      ((m, some (.ok r)) :: ((k r).run rest).1, ((k r).run rest).2) := rfl

/-- Every exchange but the one the script has no reply for consumes a reply. -/
theorem Prog.run_length_le (p : Prog α) (script : List Reply) (h : (p.run script).2 ≠ .starved) :
    (p.run script).1.length ≤ script.length := by
  induction p generalizing script with
  | send m k ih =>
    match script with
    | [] => exact absurd rfl h
    | .busError :: rest => exact Nat.le_add_left 1 rest.length
    | .ok x :: rest => exact Nat.succ_le_succ (ih x rest h)
  | _ => simp

/-- One exchange: a message and what the bus did with it (`none`: the script had no reply left). -/
abbrev Ex := Msg × Option Reply

/-- The exchange "message `m` answered by `r`". -/
def ans (m : Msg) (r : Option Msg) : Ex := (m, some (.ok r))

/-- The conversations a program can have (the run semantics as a relation). -/
inductive Prog.Conv : Prog α → List Ex → Outcome α → Prop where
  | done (a : α) : Conv (.done a) [] (.ok a)
  | fail : Conv .fail [] .proto
  | panic (p : Panic) : Conv (.panic p) [] (.panic p)
  | outOfFuel : Conv .outOfFuel [] .outOfFuel
  | starved (m : Msg) (k : Option Msg → Prog α) : Conv (.send m k) [(m, none)] .starved
  | bus (m : Msg) (k : Option Msg → Prog α) : Conv (.send m k) [(m, some .busError)] .bus
  | step (m : Msg) (k : Option Msg → Prog α) (r : Option Msg) (c : List Ex) (o : Outcome α) :
      Conv (k r) c o → Conv (.send m k) (ans m r :: c) o

theorem Prog.conv_of_run (p : Prog α) (script : List Reply) :
    p.Conv (p.run script).1 (p.run script).2 := by
  induction p generalizing script with
  | send m k ih =>
    match script with
    | [] => exact .starved m k
    | .busError :: _ => exact .bus m k
    | .ok x :: rest => exact .step m k x _ _ (ih x rest)
  | _ => constructor

def repliesOf (c : List Ex) : List Reply := c.filterMap (·.2)

theorem Prog.Conv.run_repliesOf {p : Prog α} {c : List Ex} {o : Outcome α} (h : p.Conv c o) :
    p.run (repliesOf c) = (c, o) := by
  induction h with
  | step m k r c o _ ih =>
    simp only [repliesOf, ans, List.filterMap_cons] at ih ⊢
    rw [Prog.run_send_ok, ih]
  | _ => simp [repliesOf]

theorem Prog.conv_iff_run {p : Prog α} {c : List Ex} {o : Outcome α} :
    p.Conv c o ↔ ∃ script, p.run script = (c, o) :=
  ⟨fun h => ⟨repliesOf c, h.run_repliesOf⟩, fun ⟨s, hs⟩ => by have := p.conv_of_run s; rwa [hs] at this⟩

theorem Prog.Conv.functional {p : Prog α} {c c' : List Ex} {o o' : Outcome α} (h : p.Conv c o)
    (h' : p.Conv c' o') (hr : repliesOf c = repliesOf c') : c = c' ∧ o = o' := by
  have e := h.run_repliesOf
  rw [hr, h'.run_repliesOf] at e
  simpa using e.symm

theorem Prog.Conv.bus_error_last {p : Prog α} {c : List Ex} {o : Outcome α} (h : p.Conv c o) (i : Nat)
    (m : Msg) (hi : c[i]? = some (m, some .busError)) : i + 1 = c.length ∧ o = .bus := by
  induction h generalizing i with
  | bus m' k =>
    cases i with
    | zero => exact ⟨rfl, rfl⟩
    | succ i => cases hi
  | step m' k r c o _ ih =>
    cases i with
    | zero => cases hi
    -- `(e :: c)[i + 1]?` computes to `c[i]?`
    | succ i => exact ⟨congrArg Nat.succ (ih i hi).1, (ih i hi).2⟩
  | _ => cases i <;> cases hi

theorem Prog.Conv.bus_outcome {p : Prog α} {c : List Ex} {o : Outcome α} (h : p.Conv c o) (ho : o = .bus) :
    ∃ m, c.getLast? = some (m, some .busError) := by
  induction h with
  | bus m k => exact ⟨m, rfl⟩
  | step m k r c o _ ih =>
    obtain ⟨m', hm⟩ := ih ho
    exact ⟨m', by rw [List.getLast?_cons, hm]; rfl⟩
  | _ => cases ho

/-- Every message a program can ever send satisfies `P`. -/
inductive Prog.AllSends (P : Msg → Prop) : Prog α → Prop where
  | done (a : α) : AllSends P (.done a)
  | fail : AllSends P .fail
  | panic (p : Panic) : AllSends P (.panic p)
  | outOfFuel : AllSends P .outOfFuel
  | send (m : Msg) (k : Option Msg → Prog α) : P m → (∀ r, AllSends P (k r)) → AllSends P (.send m k)

theorem Prog.AllSends.conv {P : Msg → Prop} {p : Prog α} (h : p.AllSends P) {c : List Ex} {o : Outcome α}
    (hc : p.Conv c o) : ∀ e ∈ c, P e.1 := by
  induction hc with
  | step m k r c o _ ih =>
    cases h with | send _ _ hm hk =>
    intro e he
    rcases List.mem_cons.mp he with rfl | he
    · exact hm
    · exact ih (hk r) e he
  | starved m k | bus m k =>
    cases h with | send _ _ hm _ =>
    intro e he
    cases List.mem_singleton.mp he
    exact hm
  | _ => exact fun _ he => absurd he List.not_mem_nil

theorem Prog.AllSends.mono {P Q : Msg → Prop} {p : Prog α} (h : p.AllSends P) (hpq : ∀ m, P m → Q m) :
    p.AllSends Q := by
  induction h with
  | send m k hm _ ih => exact .send m k (hpq m hm) ih
  | _ => constructor

theorem Prog.AllSends.bind {P : Msg → Prop} {p : Prog α} {f : α → Prog β}
    (hp : p.AllSends P) (hf : ∀ a, (f a).AllSends P) : (p.bind f).AllSends P := by
  induction hp with
  | done a => exact hf a
  | send m k hm _ ih => exact .send m _ hm ih
  | _ => constructor

/-- All conversations of a program lie in the language `L`: `∀ c o, p.Conv c o → L c o` in inductive form
    (`ConvsIn.conv`, `ConvsIn.of_conv`; every instance in this development comes from `of_conv`). -/
inductive Prog.ConvsIn : (List Ex → Outcome α → Prop) → Prog α → Prop where
  | done (L) (a : α) : L [] (.ok a) → ConvsIn L (.done a)
  | fail (L) : L [] .proto → ConvsIn L .fail
  | panic (L) (p : Panic) : L [] (.panic p) → ConvsIn L (.panic p)
  | outOfFuel (L) : L [] .outOfFuel → ConvsIn L .outOfFuel
  | send (L) (m : Msg) (k : Option Msg → Prog α) :
      L [(m, none)] .starved → L [(m, some .busError)] .bus →
      (∀ r, ConvsIn (fun c o => L (ans m r :: c) o) (k r)) → ConvsIn L (.send m k)

theorem Prog.ConvsIn.conv {L : List Ex → Outcome α → Prop} {p : Prog α} (h : p.ConvsIn L) {c : List Ex}
    {o : Outcome α} (hc : p.Conv c o) : L c o := by
  induction h generalizing c with
  | send L m k h1 h2 _ ih =>
    cases hc with
    | starved => exact h1
    | bus => exact h2
    | step _ _ r c _ hc => exact ih r hc
  | _ => cases hc; assumption

theorem Prog.ConvsIn.run {L : List Ex → Outcome α → Prop} {p : Prog α} (h : p.ConvsIn L)
    (script : List Reply) : L (p.run script).1 (p.run script).2 :=
  h.conv (p.conv_of_run script)

theorem Prog.ConvsIn.of_conv {L : List Ex → Outcome α → Prop} {p : Prog α}
    (h : ∀ c o, p.Conv c o → L c o) : p.ConvsIn L := by
  induction p generalizing L with
  | done a => exact .done _ a (h _ _ (.done a))
  | fail => exact .fail _ (h _ _ .fail)
  | panic q => exact .panic _ q (h _ _ (.panic q))
  | outOfFuel => exact .outOfFuel _ (h _ _ .outOfFuel)
  | send m k ih =>
    exact .send _ m k (h _ _ (.starved m k)) (h _ _ (.bus m k)) fun r =>
      ih r fun c o hc => h _ _ (.step m k r c o hc)

/-- How a reply looks to a controller at address `a`: only the sign's own state reports and
    acknowledgements, and silence, are distinguished; everything else is "unrelated". -/
inductive ReplyClass where
  | ownReport (s : State)
  | ownAck (o : Op)
  | silence
  | unrelated
  | busError
  deriving DecidableEq, Repr

def classify (a : UInt16) : Reply → ReplyClass
  | .busError => .busError
  | .ok none => .silence
  | .ok (some (.reportState a' s)) => if a' = a then .ownReport s else .unrelated
  | .ok (some (.ackOp a' o)) => if a' = a then .ownAck o else .unrelated
  | .ok (some _) => .unrelated

theorem ownReport?_eq_some (a : UInt16) (r : Option Msg) (s : State) :
    ownReport? a r = some s ↔ r = some (.reportState a s) := by
  cases r with
  | none => simp [ownReport?]
  | some m =>
    cases m <;> simp [ownReport?]

theorem ownReport?_self (a : UInt16) (s : State) : ownReport? a (some (.reportState a s)) = some s :=
  (ownReport?_eq_some a _ s).mpr rfl

end Flipdot
