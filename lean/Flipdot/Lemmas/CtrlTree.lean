/-
One predicate on interaction trees (`Ctrl a`) that every operation of the controller satisfies, proved by one
walk over each tree; what the properties need (`AllSends (Sent a)`, `Strict`, dependence on reply classes
only) follows from it for any such tree.
-/
import Flipdot.Lemmas.Prog
import Flipdot.Lemmas.Chunks
namespace Flipdot

variable {α β : Type}

/-- The messages a controller at `a` ever puts on the bus. -/
inductive Sent (a : UInt16) : Msg → Prop where
  | hello : Sent a (.hello a)
  | query : Sent a (.queryState a)
  | request (o : Op) : Sent a (.requestOp a o)
  | chunk (off : UInt16) (d : List UInt8) : d.length ≤ 16 → Sent a (.sendData off d)
  | count (c : UInt16) : Sent a (.chunksSent c)
  | complete : Sent a (.pixelsComplete a)
  | goodbye : Sent a (.goodbye a)

/-- "Carries the controller's own address, or no address at all". -/
def OwnOrNone (a : UInt16) (m : Msg) : Prop := m.addr? = none ∨ m.addr? = some a

theorem Sent.own {a : UInt16} {m : Msg} (h : Sent a m) : OwnOrNone a m := by
  cases h <;> first | exact .inl rfl | exact .inr rfl

/-- The one reply the protocol allows after `m`, for the messages where it allows only one:
    an operation request must be acknowledged by the sign itself; data chunks, the chunk count,
    pixels-complete and goodbye must be met with silence. -/
def requiredReply (a : UInt16) : Msg → Option (Option Msg)
  | .requestOp _ o => some (some (.ackOp a o))
  | .sendData _ _ | .chunksSent _ | .pixelsComplete _ | .goodbye _ => some none
  | _ => none

/-- The replies a controller ever compares against. -/
inductive Wanted (a : UInt16) : Option Msg → Prop where
  | silence : Wanted a none
  | ack (o : Op) : Wanted a (some (.ackOp a o))
  | report (s : State) : Wanted a (some (.reportState a s))

/-- A wanted reply is alone in its class. -/
theorem Wanted.eq_iff {a : UInt16} {w : Option Msg} (hw : Wanted a w) (r : Option Msg) :
    r = w ↔ classify a (.ok r) = classify a (.ok w) := by
  cases hw <;> cases r with
  | none => simp [classify]
  | some m => cases m <;> simp [classify] <;> split <;> simp_all

/-- ... for the sign's own report, in the form `simp` can use (`a` and `s` are read off the left side). -/
theorem report_eq_iff {a : UInt16} {s : State} {r : Option Msg} :
    r = some (.reportState a s) ↔ classify a (.ok r) = .ownReport s := by
  simpa [classify] using (Wanted.report s).eq_iff (a := a) r

theorem ownReport?_congr {a : UInt16} {r r' : Option Msg} (hc : classify a (.ok r) = classify a (.ok r')) :
    ownReport? a r = ownReport? a r' :=
  Option.ext fun s => by simp only [ownReport?_eq_some, report_eq_iff, hc]

/-- One exchange of a controller at `a`: the message is one of its own, the continuation looks
    only at the class of the reply, and where the protocol allows a single reply every other one
    is a protocol error. -/
structure CtrlNode (a : UInt16) (m : Msg) (k : Option Msg → Prog α) : Prop where
  sent : Sent a m
  cls : ∀ r r', classify a (.ok r) = classify a (.ok r') → k r = k r'
  strict : ∀ w, requiredReply a m = some w → ∀ r, r ≠ w → k r = .fail

inductive Ctrl (a : UInt16) : Prog α → Prop where
  | done (x : α) : Ctrl a (.done x)
  | fail : Ctrl a .fail
  | panic (p : Panic) : Ctrl a (.panic p)
  | outOfFuel : Ctrl a .outOfFuel
  | send (m : Msg) (k : Option Msg → Prog α) : CtrlNode a m k → (∀ r, Ctrl a (k r)) → Ctrl a (.send m k)

/-- The `strict` field of `CtrlNode` on its own: wherever `requiredReply` names the one allowed reply, every
    other reply leads to `.fail`. -/
inductive Prog.Strict (a : UInt16) : Prog α → Prop where
  | done (x : α) : Strict a (.done x)
  | fail : Strict a .fail
  | panic (p : Panic) : Strict a (.panic p)
  | outOfFuel : Strict a .outOfFuel
  | send (m : Msg) (k : Option Msg → Prog α) :
      (∀ w, requiredReply a m = some w → ∀ r, r ≠ w → k r = .fail) →
      (∀ r, Strict a (k r)) → Strict a (.send m k)

theorem Ctrl.sends {a : UInt16} {p : Prog α} (h : Ctrl a p) : p.AllSends (Sent a) := by
  induction h with
  | send m k hn _ ih => exact .send m k hn.sent ih
  | _ => constructor

theorem Ctrl.own_address {a : UInt16} {p : Prog α} (h : Ctrl a p) (script : List Reply) :
    ∀ e ∈ (p.run script).1, OwnOrNone a e.1 :=
  (h.sends.mono fun _ => Sent.own).conv (p.conv_of_run script)

theorem Ctrl.strict {a : UInt16} {p : Prog α} (h : Ctrl a p) : p.Strict a := by
  induction h with
  | send m k hn _ ih => exact .send m k hn.strict ih
  | _ => constructor

theorem classify_ok_ne_bus (a : UInt16) (r : Option Msg) : classify a (.ok r) ≠ .busError := by
  cases r with
  | none => simp [classify]
  | some m => cases m <;> simp only [classify] <;> (try split) <;> simp

theorem Ctrl.run_eq {a : UInt16} {p : Prog α} (h : Ctrl a p) (s s' : List Reply)
    (hs : s.map (classify a) = s'.map (classify a)) :
    p.trace s = p.trace s' ∧ (p.run s).2 = (p.run s').2 := by
  induction h generalizing s s' with
  | send m k hn _ ih =>
    match s, s' with
    | [], [] => exact ⟨rfl, rfl⟩
    | [], _ :: _ | _ :: _, [] => cases hs
    | r :: rest, r' :: rest' =>
      obtain ⟨hc, hrest⟩ := List.cons.inj hs
      match r, r' with
      | .busError, .busError => exact ⟨rfl, rfl⟩
      | .busError, .ok x' => exact absurd hc.symm (classify_ok_ne_bus a x')
      | .ok x, .busError => exact absurd hc (classify_ok_ne_bus a x)
      | .ok x, .ok x' =>
        obtain ⟨ht, ho⟩ := ih x' rest rest' hrest
        show m :: (k x).trace rest = m :: (k x').trace rest' ∧ ((k x).run rest).2 = ((k x').run rest').2
        rw [hn.cls x x' hc, ht, ho]
        exact ⟨rfl, rfl⟩
  | _ => simp [Prog.trace]

/-- In every conversation of a strict program, a reply other than the required one is the last thing
    that happens, and the outcome is a protocol error. -/
theorem Prog.Strict.conv {a : UInt16} {p : Prog α} (h : p.Strict a) {c : List Ex} {o : Outcome α}
    (hc : p.Conv c o) (i : Nat) (m : Msg) (r w : Option Msg) (hi : c[i]? = some (m, some (.ok r)))
    (hw : requiredReply a m = some w) (hr : r ≠ w) : i + 1 = c.length ∧ o = .proto := by
  induction hc generalizing i with
  | step m' k x c o hk ih =>
    cases h with | send _ _ hstrict hrest =>
    cases i with
    | zero =>
      cases hi
      rw [hstrict w hw r hr] at hk
      cases hk
      exact ⟨rfl, rfl⟩
    | succ i => exact ⟨congrArg Nat.succ (ih (hrest x) i hi).1, (ih (hrest x) i hi).2⟩
  | _ => cases i <;> cases hi

theorem Ctrl.bind {a : UInt16} {p : Prog α} {f : α → Prog β} (hp : Ctrl a p) (hf : ∀ x, Ctrl a (f x)) :
    Ctrl a (p.bind f) := by
  induction hp with
  | done x => exact hf x
  | send m k hn _ ih =>
    exact .send m _ ⟨hn.sent, fun r r' hc => by rw [hn.cls r r' hc],
      fun w hw r hr => by rw [hn.strict w hw r hr]; rfl⟩ ih
  | _ => constructor

theorem Ctrl.ite {a : UInt16} {c : Prop} [Decidable c] {p q : Prog α} (hp : Ctrl a p) (hq : Ctrl a q) :
    Ctrl a (if c then p else q) := by
  split <;> assumption

/-- `expect` of a wanted reply which is the required one, if the protocol requires one. -/
theorem ctrl_expect {a : UInt16} {m : Msg} {w : Option Msg} {k : Prog α} (hm : Sent a m)
    (hw : Wanted a w) (hreq : requiredReply a m = none ∨ requiredReply a m = some w) (hk : Ctrl a k) :
    Ctrl a (expect m w k) := by
  refine .send _ _ ⟨hm, fun r r' hc => ?_, fun w' hw' r hr => ?_⟩ fun r => .ite hk .fail
  · simp only [hw.eq_iff, hc]
  · have : w' = w := by rcases hreq with h | h <;> rw [h] at hw' <;> cases hw'; rfl
    simp [this ▸ hr]

theorem ctrl_sendChunks {a : UInt16} (ms : List Msg) (n : Nat) (k : Nat → Prog α)
    (hms : ∀ m ∈ ms, ∃ off d, m = .sendData off d ∧ d.length ≤ 16) (hk : ∀ n, Ctrl a (k n)) :
    Ctrl a (sendChunks ms n k) := by
  induction ms generalizing n with
  | nil => exact hk n
  | cons m ms ih =>
    obtain ⟨off, d, rfl, hd⟩ := hms m (by simp)
    -- `sendChunks` sends a chunk as `expect` does, wanting silence
    exact ctrl_expect (w := none) (.chunk off d hd) .silence (.inr rfl) <|
      .ite (.panic _) (ih (n + 1) fun x hx => hms x (by simp [hx]))

/-- A query (hello, state query): any reply is allowed, and the continuation depends on its class
    only. -/
theorem ctrl_ask {a : UInt16} {m : Msg} {k : Option Msg → Prog α} (hm : Sent a m)
    (hfree : requiredReply a m = none)
    (hcls : ∀ r r', classify a (.ok r) = classify a (.ok r') → k r = k r')
    (hk : ∀ r, Ctrl a (k r)) : Ctrl a (.send m k) :=
  .send m k ⟨hm, hcls, fun w hw => by rw [hfree] at hw; cases hw⟩ hk

theorem ctrl_transfer (a : UInt16) (msgs : List Msg) (op : Op) (succ failS : State) (n : Nat)
    (hms : ∀ m ∈ msgs, ∃ off d, m = .sendData off d ∧ d.length ≤ 16) :
    Ctrl a (transfer a msgs op succ failS n) := by
  have attempt : ∀ q : Option Msg → Prog Unit,
      (∀ r r', classify a (.ok r) = classify a (.ok r') → q r = q r') → (∀ r, Ctrl a (q r)) →
      Ctrl a (expect (.requestOp a op) (some (.ackOp a op)) <| sendChunks msgs 0 fun n =>
        expect (.chunksSent (UInt16.ofNat n)) none <| .send (.queryState a) q) :=
    fun q hc hq => ctrl_expect (.request _) (.ack _) (.inr rfl) <| ctrl_sendChunks _ _ _ hms fun _ =>
      ctrl_expect (.count _) .silence (.inr rfl) <| ctrl_ask .query rfl hc hq
  induction n with
  | zero =>
    exact attempt _ (fun r r' hc => by simp only [report_eq_iff, hc])
      fun r => .ite (.done _) .fail
  | succ n ih =>
    exact attempt _ (fun r r' hc => by
        simp only [report_eq_iff, hc])
      fun r => .ite ih (.ite (.done _) .fail)

theorem ctrl_ensure (a : UInt16) (k : Prog α) (hk : Ctrl a k) : Ctrl a (ensureUnconfigured a k) := by
  have hfin : Ctrl a (finishResetSeq a k) :=
    ctrl_expect (.request _) (.ack _) (.inr rfl) (ctrl_expect .hello (.report _) (.inl rfl) hk)
  exact ctrl_ask .hello rfl (fun r r' hc => by
      simp only [report_eq_iff, hc])
    fun r => .ite hk <| .ite hfin <|
      ctrl_expect (.request _) (.ack _) (.inr rfl) (ctrl_expect .hello (.report _) (.inl rfl) hfin)

theorem ctrl_configure (a : UInt16) (t : SignType) : Ctrl a (configure a t) :=
  ctrl_ensure a _ (ctrl_transfer a _ _ _ _ _ fun _ => mem_allChunkMsgs)

theorem ctrl_configureIfNeeded (a : UInt16) (t : SignType) : Ctrl a (configureIfNeeded a t) := by
  refine ctrl_ask .hello rfl (fun r r' hc => by rw [ownReport?_congr hc]) fun r => ?_
  cases ownReport? a r with
  | none => exact ctrl_configure a t
  | some s => exact .ite (.done _) (ctrl_configure a t)

theorem ctrl_sendPages (a : UInt16) (pages : List (List UInt8)) : Ctrl a (sendPages a pages) :=
  .bind (ctrl_transfer a _ _ _ _ _ fun _ => mem_allChunkMsgs) fun _ =>
    ctrl_expect .complete .silence (.inr rfl) <| ctrl_ask .query rfl
      (fun r r' hc => by simp only [report_eq_iff, hc])
      fun r => .ite (.done _) (.done _)

theorem ctrl_switchPage (a : UInt16) (target trigger : State) (op : Op) (fuel : Nat) :
    Ctrl a (switchPage a target trigger op fuel) := by
  induction fuel with
  | zero => exact .outOfFuel
  | succ fuel ih =>
    refine ctrl_ask .query rfl (fun r r' hc => by rw [ownReport?_congr hc]) fun r => ?_
    cases ownReport? a r with
    | none => exact .fail
    | some s =>
      exact .ite (.done _) <| .ite (.done _) <| .ite (ctrl_expect (.request _) (.ack _) (.inr rfl) ih) <|
        .ite ih .fail

theorem ctrl_shutDown (a : UInt16) : Ctrl a (shutDown a) :=
  ctrl_expect .goodbye .silence (.inr rfl) (.done _)

end Flipdot
