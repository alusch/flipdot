/-
`chunks16` without its fuel (`chunks16_of_ne_nil`, and induction in steps of 16 bytes), and from it
which bytes chunk `i` of an item holds and which message carries it; every message of a transfer is a
data message of at most 16 bytes (`mem_allChunkMsgs`).
-/
import Flipdot.Model.Controller
namespace Flipdot

/-- `chunks16` without its fuel: the first 16 bytes, then the chunks of the rest. -/
theorem chunks16_of_ne_nil {l : List UInt8} (h : l ≠ []) : chunks16 l = l.take 16 :: chunks16 (l.drop 16) := by
  -- any two fuels that are at least the length give the same list
  have fuel : ∀ n m (l : List UInt8), l.length ≤ n → l.length ≤ m → chunksN n l = chunksN m l := by
    intro n
    induction n with
    | zero =>
      intro m l hl _
      cases List.eq_nil_of_length_eq_zero (Nat.le_zero.mp hl)
      cases m <;> rfl
    | succ n ih =>
      intro m l hl hm
      cases l with
      | nil => cases m <;> rfl
      | cons b l =>
        cases m with
        | zero => simp at hm
        | succ m =>
          simp only [chunksN, List.isEmpty_cons, Bool.false_eq_true, ↓reduceIte]
          rw [ih m _ (by simp at hl ⊢; omega) (by simp at hm ⊢; omega)]
  cases l with
  | nil => exact absurd rfl h
  | cons b l =>
    simp only [chunks16, List.length_cons, chunksN, List.isEmpty_cons, Bool.false_eq_true, ↓reduceIte]
    rw [fuel l.length _ _ (by simp) (Nat.le_refl _)]

theorem chunks16_induction {motive : List UInt8 → Prop} (nil : motive [])
    (step : ∀ l, l ≠ [] → motive (l.drop 16) → motive l) (l : List UInt8) : motive l := by
  induction h : l.length using Nat.strongRecOn generalizing l with
  | _ n ih =>
    cases l with
    | nil => exact nil
    | cons b l => exact step _ (by simp) (ih _ (by subst h; simp; omega) _ rfl)

theorem chunks16_flatten (l : List UInt8) : (chunks16 l).flatten = l := by
  induction l using chunks16_induction with
  | nil => rfl
  | step l h ih => rw [chunks16_of_ne_nil h, List.flatten_cons, ih, List.take_append_drop]

/-- Chunk `i` is bytes `16 i .. 16 i + 15` of the item (consecutive, in order). -/
theorem chunks16_getElem? (l : List UInt8) (i : Nat) :
    (chunks16 l)[i]? = if i * 16 < l.length then some ((l.drop (i * 16)).take 16) else none := by
  induction l using chunks16_induction generalizing i with
  | nil => simp [chunks16, chunksN]
  | step l h ih =>
    have := List.length_pos_iff.mpr h
    rw [chunks16_of_ne_nil h]
    cases i with
    | zero => simp [this]
    | succ i =>
      rw [List.getElem?_cons_succ, ih, List.length_drop, List.drop_drop, Nat.add_comm 16, ← Nat.succ_mul]
      have : i * 16 < l.length - 16 ↔ (i + 1) * 16 < l.length := by omega
      simp only [this]

theorem chunks16_len (l : List UInt8) : ∀ c ∈ chunks16 l, 1 ≤ c.length ∧ c.length ≤ 16 := by
  intro c hc
  obtain ⟨i, hi⟩ := List.getElem?_of_mem hc
  rw [chunks16_getElem?] at hi
  split at hi
  next h =>
    cases hi
    rw [List.length_take, List.length_drop]
    exact ⟨Nat.le_min.mpr ⟨by decide, Nat.sub_pos_of_lt h⟩, Nat.min_le_left _ _⟩
  next => cases hi

theorem chunks16_count (l : List UInt8) : (chunks16 l).length = (l.length + 15) / 16 := by
  induction l using chunks16_induction with
  | nil => rfl
  | step l h ih =>
    have := List.length_pos_iff.mpr h
    rw [chunks16_of_ne_nil h, List.length_cons, ih, List.length_drop]
    omega

theorem chunkMsgsFrom_getElem? (j : Nat) (cs : List (List UInt8)) (i : Nat) :
    (chunkMsgsFrom j cs)[i]? = cs[i]?.map (fun c => Msg.sendData (UInt16.ofNat ((j + i) * 16)) c) := by
  induction cs generalizing j i with
  | nil => simp [chunkMsgsFrom]
  | cons c cs ih =>
    cases i with
    | zero => simp [chunkMsgsFrom]
    | succ i =>
      simp only [chunkMsgsFrom, List.getElem?_cons_succ]
      rw [ih (j + 1) i]
      have : j + 1 + i = j + (i + 1) := by omega
      rw [this]

/-- The `i`-th message for an item carries chunk `i` at offset `16 i` (as a 16-bit value). -/
theorem itemMsgs_getElem? (item : List UInt8) (i : Nat) :
    (itemMsgs item)[i]? =
      if i * 16 < item.length then
        some (.sendData (UInt16.ofNat (i * 16)) ((item.drop (i * 16)).take 16))
      else none := by
  unfold itemMsgs
  rw [chunkMsgsFrom_getElem?, chunks16_getElem?]
  split <;> simp

theorem chunkMsgsFrom_length (j : Nat) (cs : List (List UInt8)) : (chunkMsgsFrom j cs).length = cs.length := by
  induction cs generalizing j with
  | nil => rfl
  | cons c cs ih => simp [chunkMsgsFrom, ih]

theorem allChunkMsgs_eq_flatMap (items : List (List UInt8)) :
    allChunkMsgs items = items.flatMap itemMsgs := by
  induction items with
  | nil => rfl
  | cons it its ih => simp [allChunkMsgs, ih]

theorem mem_allChunkMsgs {items : List (List UInt8)} {m : Msg} (hm : m ∈ allChunkMsgs items) :
    ∃ off d, m = .sendData off d ∧ d.length ≤ 16 := by
  rw [allChunkMsgs_eq_flatMap, List.mem_flatMap] at hm
  obtain ⟨it, _, hm⟩ := hm
  obtain ⟨i, hi⟩ := List.getElem?_of_mem hm
  rw [itemMsgs, chunkMsgsFrom_getElem?, Option.map_eq_some_iff] at hi
  obtain ⟨c, hc, rfl⟩ := hi
  exact ⟨_, c, rfl, (chunks16_len it c (List.mem_of_getElem? hc)).2⟩

/-- The configuration transfer: the 16-byte block of a sign type is a single chunk at offset 0. -/
theorem allChunkMsgs_typeBlock (t : SignType) : allChunkMsgs [t.toBytes] = [.sendData 0 t.toBytes] := by
  cases t <;> rfl

end Flipdot
