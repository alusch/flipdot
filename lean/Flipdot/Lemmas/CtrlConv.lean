/-
Each protocol relation of Spec/CtrlProtocol.lean holds of exactly the conversations (`Prog.Conv`) of its
operation.  Both inclusions come from one set of iff lemmas about the combinators (`conv_expect`, `conv_must`,
`conv_bind`, `conv_ensure`) and three program identities (`sendChunks_eq_must`, `transfer_eq`, `ensure_eq`): an
attempt, like each reset sequence, is a sequence of exchanges each of which must get exactly one reply
(`mustProg`); after an attempt comes the query, whose reply decides (`verdict`).  For the polling loop the converse holds up to the model's fuel.
-/
import Flipdot.Spec.CtrlProtocol
import Flipdot.Lemmas.Chunks
namespace Flipdot

variable {α β : Type}

theorem MustFail.cons {reqs : List (Msg × Option Msg)} {c : List Ex} {o : Outcome α} (m : Msg)
    (w : Option Msg) (h : MustFail reqs c o) : MustFail ((m, w) :: reqs) (ans m w :: c) o := by
  obtain ⟨pre, m', w', post, c', e, hs, hc⟩ := h
  exact ⟨(m, w) :: pre, m', w', post, c', by simp [e], hs, by simp [okConv, hc]⟩

theorem MustFail.head {m : Msg} {w : Option Msg} {rest : List (Msg × Option Msg)} {c : List Ex}
    {o : Outcome α} (h : Stop m w c o) : MustFail ((m, w) :: rest) c o :=
  ⟨[], m, w, rest, c, rfl, h, by simp [okConv]⟩

theorem conv_expect {m : Msg} {w : Option Msg} {k : Prog α} {c : List Ex} {o : Outcome α} :
    (expect m w k).Conv c o ↔ Stop m w c o ∨ ∃ c', c = ans m w :: c' ∧ k.Conv c' o := by
  unfold expect
  constructor
  · intro h
    cases h with
    | starved => exact .inl .starved
    | bus => exact .inl .bus
    | step _ _ r c' _ h =>
      by_cases hr : r = w
      · exact .inr ⟨c', by rw [hr], by simpa [hr] using h⟩
      · simp only [hr, ↓reduceIte] at h
        cases h
        exact .inl (.wrong r hr)
  · rintro (h | ⟨c', rfl, h⟩)
    · cases h with
      | starved => exact .starved _ _
      | bus => exact .bus _ _
      | wrong r hr => exact .step _ _ r [] _ (by simp only [hr, ↓reduceIte]; exact .fail)
    · exact .step _ _ w c' o (by simpa using h)

/-- A fixed sequence of exchanges each of which must get exactly the given reply. -/
def mustProg (reqs : List (Msg × Option Msg)) (k : Prog α) : Prog α :=
  reqs.foldr (fun mw p => expect mw.1 mw.2 p) k

theorem mustProg_append (pre post : List (Msg × Option Msg)) (k : Prog α) :
    mustProg (pre ++ post) k = mustProg pre (mustProg post k) := by
  simp [mustProg]

theorem conv_must {reqs : List (Msg × Option Msg)} {k : Prog α} {c : List Ex} {o : Outcome α} :
    (mustProg reqs k).Conv c o ↔ MustFail reqs c o ∨ ∃ c', c = okConv reqs ++ c' ∧ k.Conv c' o := by
  have ok : ∀ (reqs : List (Msg × Option Msg)) (k : Prog α) c, k.Conv c o →
      (mustProg reqs k).Conv (okConv reqs ++ c) o := by
    intro reqs k c h
    induction reqs with
    | nil => exact h
    | cons mw reqs ih => exact conv_expect.mpr (.inr ⟨_, rfl, ih⟩)
  constructor
  · intro h
    induction reqs generalizing c with
    | nil => exact .inr ⟨c, rfl, h⟩
    | cons mw reqs ih =>
      rcases conv_expect.mp h with hs | ⟨c', rfl, hk⟩
      · exact .inl (.head hs)
      · rcases ih hk with hf | ⟨c'', rfl, hk'⟩
        · exact .inl (hf.cons _ _)
        · exact .inr ⟨c'', rfl, hk'⟩
  · rintro (⟨pre, m, w, post, c', rfl, hs, rfl⟩ | ⟨c', rfl, h⟩)
    · rw [mustProg_append]
      exact ok pre _ c' (conv_expect.mpr (.inl hs))
    · exact ok reqs k c' h

/-- Below the 16-bit limit of its counter, the inner chunk loop is a sequence of exchanges each of
    which must be met with silence. -/
theorem sendChunks_eq_must (ms : List Msg) (n : Nat) (k : Nat → Prog α) (h : n + ms.length < 65536) :
    sendChunks ms n k = mustProg (ms.map (·, none)) (k (n + ms.length)) := by
  induction ms generalizing n with
  | nil => rfl
  | cons m ms ih =>
    have h1 : ¬ n + 1 ≥ 65536 := by simp at h; omega
    have e : n + (m :: ms).length = n + 1 + ms.length := by simp; omega
    simp only [sendChunks, h1, ↓reduceIte, e, ih (n + 1) (e ▸ h)]
    rfl

theorem okConv_attempt (a : UInt16) (msgs : List Msg) (op : Op) (tail : List Ex) :
    okConv (attemptReqs a msgs op) ++ tail =
      ans (.requestOp a op) (some (.ackOp a op)) ::
        (okConv (msgs.map (·, none)) ++ ans (.chunksSent (UInt16.ofNat msgs.length)) none :: tail) := by
  simp [okConv, attemptReqs]

/-- What `transfer` does with the reply to the query that ends an attempt, `n` retries being left. -/
def verdict (a : UInt16) (msgs : List Msg) (op : Op) (succ failS : State) :
    Nat → Option Msg → Prog Unit
  | 0, r => if r = some (.reportState a succ) then .done () else .fail
  | n + 1, r =>
    if r = some (.reportState a failS) then transfer a msgs op succ failS n
    else if r = some (.reportState a succ) then .done () else .fail

theorem transfer_eq (a : UInt16) (msgs : List Msg) (op : Op) (succ failS : State) (n : Nat)
    (hlen : msgs.length < 65536) :
    transfer a msgs op succ failS n =
      mustProg (attemptReqs a msgs op) (.send (.queryState a) (verdict a msgs op succ failS n)) := by
  cases n <;>
    simp only [transfer, sendChunks_eq_must msgs 0 _ (by omega), attemptReqs, mustProg,
      List.foldr_cons, List.foldr_append, Nat.zero_add] <;> rfl

theorem conv_attempt {a : UInt16} {msgs : List Msg} {op : Op} {succ failS : State} {n : Nat} {c : List Ex}
    {o : Outcome Unit} (hlen : msgs.length < 65536) :
    (transfer a msgs op succ failS n).Conv c o ↔ MustFail (attemptReqs a msgs op) c o ∨
      ∃ c', c = okConv (attemptReqs a msgs op) ++ c' ∧
        (Prog.send (.queryState a) (verdict a msgs op succ failS n)).Conv c' o := by
  rw [transfer_eq a msgs op succ failS n hlen, conv_must]

theorem transfer_sound (a : UInt16) (msgs : List Msg) (op : Op) (succ failS : State) (n : Nat)
    (hlen : msgs.length < 65536) {c : List Ex} {o : Outcome Unit}
    (h : (transfer a msgs op succ failS n).Conv c o) : TransferSpec a msgs op succ failS n c o := by
  -- only the retry needs the induction hypothesis; what comes before the verdict is the same for all `n`
  induction n using Nat.strongRecOn generalizing c with | _ n ih =>
  obtain hm | ⟨c', rfl, hq⟩ := (conv_attempt hlen).mp h
  · exact .stopped _ _ _ hm
  cases hq with
  | starved => exact .queryStarved _
  | bus => exact .queryBus _
  | step _ _ r c' _ h =>
    cases n with
    | zero =>
      by_cases hr : r = some (.reportState a succ)
      · subst hr; simp only [verdict, ↓reduceIte] at h; cases h; exact .received 0
      · simp only [verdict, hr, ↓reduceIte] at h; cases h; exact .unexpected 0 r hr (.inl rfl)
    | succ n =>
      by_cases hf : r = some (.reportState a failS)
      · subst hf; simp only [verdict, ↓reduceIte] at h; exact .retry n c' o (ih n (Nat.lt_succ_self n) h)
      · by_cases hr : r = some (.reportState a succ)
        · subst hr; simp only [verdict, hf, ↓reduceIte] at h; cases h; exact .received _
        · simp only [verdict, hf, hr, ↓reduceIte] at h; cases h; exact .unexpected _ r hr (.inr hf)

/-- Every conversation the transfer protocol allows is a conversation of `transfer`
    (for distinct success / failure states, as in both uses). -/
theorem transfer_complete (a : UInt16) (msgs : List Msg) (op : Op) (succ failS : State) (n : Nat)
    (hlen : msgs.length < 65536) (hne : succ ≠ failS) {c : List Ex} {o : Outcome Unit}
    (h : TransferSpec a msgs op succ failS n c o) : (transfer a msgs op succ failS n).Conv c o := by
  have hsf : ¬ (some (Msg.reportState a succ) = some (Msg.reportState a failS)) := by simpa using hne
  have query : ∀ {n c' o}, (Prog.send (.queryState a) (verdict a msgs op succ failS n)).Conv c' o →
      (transfer a msgs op succ failS n).Conv (okConv (attemptReqs a msgs op) ++ c') o :=
    fun h => (conv_attempt hlen).mpr (.inr ⟨_, rfl, h⟩)
  induction h with
  | stopped n c o hm => exact (conv_attempt hlen).mpr (.inl hm)
  | queryStarved n => exact query (.starved _ _)
  | queryBus n => exact query (.bus _ _)
  | received n =>
    refine query (.step _ _ _ [] _ ?_)
    cases n <;> simp only [verdict, hsf, ↓reduceIte] <;> exact .done ()
  | retry n c o _ ih =>
    refine query (.step _ _ _ c o ?_)
    simpa only [verdict, ↓reduceIte] using ih
  | unexpected n r h1 h2 =>
    refine query (.step _ _ r [] _ ?_)
    cases n with
    | zero => simp only [verdict, h1, ↓reduceIte]; exact .fail
    | succ n => simp only [verdict, h1, h2.resolve_left (by omega), ↓reduceIte]; exact .fail

theorem transfer_conv {a : UInt16} {msgs : List Msg} {op : Op} {succ failS : State} {n : Nat} {c : List Ex}
    {o : Outcome Unit} (hlen : msgs.length < 65536) (hne : succ ≠ failS) :
    (transfer a msgs op succ failS n).Conv c o ↔ TransferSpec a msgs op succ failS n c o :=
  ⟨transfer_sound a msgs op succ failS n hlen, transfer_complete a msgs op succ failS n hlen hne⟩

theorem transfer_refines (a : UInt16) (msgs : List Msg) (op : Op) (succ failS : State) (n : Nat)
    (hlen : msgs.length < 65536) :
    (transfer a msgs op succ failS n).ConvsIn (TransferSpec a msgs op succ failS n) :=
  .of_conv fun _ _ => transfer_sound a msgs op succ failS n hlen

/-- A conversation of `p.bind f` is one of `p` that does not end `ok` (the outcome carried over by `cast`), or
    one of `p` ending `ok x` followed by one of `f x`. -/
theorem conv_bind {p : Prog α} {f : α → Prog β} {c : List Ex} {o : Outcome β} :
    (p.bind f).Conv c o ↔
      (∃ o', p.Conv c o' ∧ (∀ x, o' ≠ .ok x) ∧ o = o'.cast) ∨
      ∃ c1 x c2, p.Conv c1 (.ok x) ∧ (f x).Conv c2 o ∧ c = c1 ++ c2 := by
  induction p generalizing c with
  | done a =>
    exact ⟨fun h => .inr ⟨[], a, c, .done a, h, rfl⟩, by
      rintro (⟨_, h, hn, _⟩ | ⟨_, _, _, h, hf, rfl⟩) <;> cases h
      · exact absurd rfl (hn a)
      · exact hf⟩
  | fail | panic | outOfFuel =>
    exact ⟨fun h => by cases h; exact .inl ⟨_, by constructor, by simp, rfl⟩, by
      rintro (⟨_, h, _, rfl⟩ | ⟨_, _, _, h, _⟩) <;> cases h; constructor⟩
  | send m k ih =>
    constructor
    · intro h
      cases h with
      | starved => exact .inl ⟨_, .starved m k, by simp, rfl⟩
      | bus => exact .inl ⟨_, .bus m k, by simp, rfl⟩
      | step _ _ r c' _ h =>
        rcases (ih r).mp h with ⟨o', hp, hn, rfl⟩ | ⟨c1, x, c2, hp, hf, rfl⟩
        · exact .inl ⟨o', .step m k r c' o' hp, hn, rfl⟩
        · exact .inr ⟨_, x, c2, .step m k r c1 _ hp, hf, rfl⟩
    · rintro (⟨o', h, hn, rfl⟩ | ⟨c1, x, c2, h, hf, rfl⟩)
      · cases h with
        | starved => exact .starved m _
        | bus => exact .bus m _
        | step _ _ r c' _ h => exact .step m _ r c' _ ((ih r).mpr (.inl ⟨_, h, hn, rfl⟩))
      · cases h with
        | step _ _ r c' _ h => exact .step m _ r _ _ ((ih r).mpr (.inr ⟨c', x, c2, h, hf, rfl⟩))

theorem ensure_eq (a : UInt16) (k : Prog α) :
    ensureUnconfigured a k = .send (.hello a) fun r =>
      if r = some (.reportState a .unconfigured) then k
      else if r = some (.reportState a .readyToReset) then mustProg (finishReqs a) k
      else mustProg (startReqs a) k := rfl

theorem conv_ensure {a : UInt16} {k : Prog α} {c : List Ex} {o : Outcome α} :
    (ensureUnconfigured a k).Conv c o ↔
      EnsureStop a c o ∨ ∃ c1 c2, EnsureOK a c1 ∧ k.Conv c2 o ∧ c = c1 ++ c2 := by
  have hru : ¬ some (Msg.reportState a .readyToReset) = some (Msg.reportState a .unconfigured) := by simp
  rw [ensure_eq]
  constructor
  · intro h
    cases h with
    | starved => exact .inl .helloStarved
    | bus => exact .inl .helloBus
    | step _ _ r c' _ h =>
      by_cases h1 : r = some (.reportState a .unconfigured)
      · subst h1
        simp only [↓reduceIte] at h
        exact .inr ⟨_, c', .already, h, rfl⟩
      · by_cases h2 : r = some (.reportState a .readyToReset)
        · subst h2
          simp only [hru, ↓reduceIte] at h
          rcases conv_must.mp h with hf | ⟨c'', rfl, hk⟩
          · exact .inl (.finish _ _ hf)
          · exact .inr ⟨_, c'', .finish, hk, rfl⟩
        · simp only [h1, h2, ↓reduceIte] at h
          rcases conv_must.mp h with hf | ⟨c'', rfl, hk⟩
          · exact .inl (.full r _ _ h1 h2 hf)
          · exact .inr ⟨_, c'', .full r h1 h2, hk, rfl⟩
  · rintro (h | ⟨c1, c2, h1, hk, rfl⟩)
    · cases h with
      | helloStarved => exact .starved _ _
      | helloBus => exact .bus _ _
      | finish c' o hm =>
        exact .step _ _ _ _ o (by simp only [hru, ↓reduceIte]; exact conv_must.mpr (.inl hm))
      | full r c' o h1 h2 hm =>
        exact .step _ _ r _ o (by simp only [h1, h2, ↓reduceIte]; exact conv_must.mpr (.inl hm))
    · cases h1 with
      | already => exact .step _ _ _ _ o (by simpa using hk)
      | finish =>
        exact .step _ _ _ _ o (by simp only [hru, ↓reduceIte]; exact conv_must.mpr (.inr ⟨c2, rfl, hk⟩))
      | full r h1 h2 =>
        exact .step _ _ r _ o (by simp only [h1, h2, ↓reduceIte]; exact conv_must.mpr (.inr ⟨c2, rfl, hk⟩))

theorem cfgMsgs_length (t : SignType) : (cfgMsgs t).length = 1 :=
  congrArg List.length (allChunkMsgs_typeBlock t)

theorem configure_conv {a : UInt16} {t : SignType} {c : List Ex} {o : Outcome Unit} :
    (configure a t).Conv c o ↔ ConfigureSpec a t c o := by
  have hlen : (allChunkMsgs [t.toBytes]).length < 65536 := by rw [← cfgMsgs, cfgMsgs_length]; decide
  unfold configure
  simp only [conv_ensure, transfer_conv hlen (show State.configReceived ≠ .configFailed by decide)]
  constructor
  · rintro (h | ⟨c1, c2, h1, ht, rfl⟩)
    · exact .ensureStop c o h
    · exact .transfer c1 c2 o h1 ht
  · intro h
    cases h with
    | ensureStop c o h => exact .inl h
    | transfer c1 c2 o h1 ht => exact .inr ⟨c1, c2, h1, ht, rfl⟩

theorem configure_refines (a : UInt16) (t : SignType) :
    (configure a t).ConvsIn (ConfigureSpec a t) :=
  .of_conv fun _ _ => configure_conv.mp

theorem configureIfNeeded_conv {a : UInt16} {t : SignType} {c : List Ex} {o : Outcome Unit} :
    (configureIfNeeded a t).Conv c o ↔ ConfigureIfNeededSpec a t c o := by
  unfold configureIfNeeded
  constructor
  · intro h
    cases h with
    | starved => exact .helloStarved
    | bus => exact .helloBus
    | step _ _ r c' _ h =>
      dsimp only at h
      split at h
      next s hr =>
        cases (ownReport?_eq_some a r s).mp hr
        split at h
        next hs => cases h; exact .ready s hs
        next hs => exact .configure _ c' o (fun s' hs' e => by cases e; exact hs hs') (configure_conv.mp h)
      next hr =>
        exact .configure r c' o (fun s _ e => by rw [← ownReport?_eq_some, hr] at e; cases e)
          (configure_conv.mp h)
  · intro h
    cases h with
    | helloStarved => exact .starved _ _
    | helloBus => exact .bus _ _
    | ready s hs => exact .step _ _ _ [] _ (by simp only [ownReport?_self, hs, ↓reduceIte]; exact .done ())
    | configure r c o hr hc =>
      refine .step _ _ r c o ?_
      split
      next s hs =>
        cases (ownReport?_eq_some a r s).mp hs
        rw [if_neg fun h => hr s h rfl]
        exact configure_conv.mpr hc
      next => exact configure_conv.mpr hc

theorem configureIfNeeded_refines (a : UInt16) (t : SignType) :
    (configureIfNeeded a t).ConvsIn (ConfigureIfNeededSpec a t) :=
  .of_conv fun _ _ => configureIfNeeded_conv.mp

theorem sendPages_conv {a : UInt16} {pages : List (List UInt8)} {c : List Ex} {o : Outcome FlipStyle}
    (hlen : (allChunkMsgs pages).length < 65536) :
    (sendPages a pages).Conv c o ↔ SendPagesSpec a pages c o := by
  unfold sendPages
  simp only [conv_bind, conv_expect, transfer_conv hlen (show State.pixelsReceived ≠ .pixelsFailed by decide)]
  constructor
  · rintro (⟨o', ht, hn, rfl⟩ | ⟨c1, ⟨⟩, c2, ht, hs | ⟨c', rfl, hq⟩, rfl⟩)
    · exact .transferStop c o' hn ht
    · exact .completeStop c1 c2 o ht hs
    · cases hq with
      | starved => exact .queryStarved c1 ht
      | bus => exact .queryBus c1 ht
      | step _ _ r _ _ hq =>
        by_cases hr : r = some (.reportState a .showingPages)
        · simp only [hr, ↓reduceIte] at hq; cases hq; exact hr ▸ .automatic c1 ht
        · simp only [hr, ↓reduceIte] at hq; cases hq; exact .manual c1 r hr ht
  · intro h
    cases h with
    | transferStop c o' hn ht => exact .inl ⟨o', ht, hn, rfl⟩
    | completeStop c1 c2 o ht hs => exact .inr ⟨c1, (), c2, ht, .inl hs, rfl⟩
    | queryStarved c1 ht => exact .inr ⟨c1, (), _, ht, .inr ⟨_, rfl, .starved _ _⟩, rfl⟩
    | queryBus c1 ht => exact .inr ⟨c1, (), _, ht, .inr ⟨_, rfl, .bus _ _⟩, rfl⟩
    | automatic c1 ht =>
      refine .inr ⟨c1, (), _, ht, .inr ⟨_, rfl, .step _ _ _ [] _ ?_⟩, rfl⟩
      simp only [↓reduceIte]; exact .done _
    | manual c1 r hr ht =>
      refine .inr ⟨c1, (), _, ht, .inr ⟨_, rfl, .step _ _ r [] _ ?_⟩, rfl⟩
      simp only [hr, ↓reduceIte]; exact .done _

theorem sendPages_refines (a : UInt16) (pages : List (List UInt8))
    (hlen : (allChunkMsgs pages).length < 65536) :
    (sendPages a pages).ConvsIn (SendPagesSpec a pages) :=
  .of_conv fun _ _ => (sendPages_conv hlen).mp

theorem shutDown_conv {a : UInt16} {c : List Ex} {o : Outcome Unit} :
    (shutDown a).Conv c o ↔ ShutDownSpec a c o := by
  unfold shutDown
  rw [conv_expect]
  constructor
  · rintro (h | ⟨_, rfl, ⟨⟩⟩)
    · exact .stop c o h
    · exact .ok
  · intro h
    cases h with
    | stop c o h => exact .inl h
    | ok => exact .inr ⟨[], rfl, .done ()⟩

theorem shutDown_refines (a : UInt16) : (shutDown a).ConvsIn (ShutDownSpec a) :=
  .of_conv fun _ _ => shutDown_conv.mp

theorem switchPage_sound (a : UInt16) (target trigger : State) (op : Op) (fuel : Nat) {c : List Ex}
    {o : Outcome Unit} (h : (switchPage a target trigger op fuel).Conv c o) :
    SwitchSpec a target trigger op c o := by
  induction fuel generalizing c with
  | zero => cases h; exact .outOfFuel
  | succ fuel ih =>
    unfold switchPage at h
    cases h with
    | starved => exact .queryStarved
    | bus => exact .queryBus
    | step _ _ r c' _ h =>
      cases hr : ownReport? a r with
      | none =>
        simp only [hr] at h
        cases h
        exact .unexpected r fun s hs => by rw [← ownReport?_eq_some, hr] at hs; cases hs
      | some s =>
        cases (ownReport?_eq_some a r s).mp hr
        simp only [hr] at h
        by_cases h1 : s = .showingPages
        · rw [if_pos h1] at h; cases h; exact h1 ▸ .showing
        rw [if_neg h1] at h
        by_cases h2 : s = target
        · rw [if_pos h2] at h; cases h; exact h2 ▸ .reached
        rw [if_neg h2] at h
        by_cases h3 : s = trigger
        · subst h3
          rw [if_pos rfl] at h
          rcases conv_expect.mp h with hs | ⟨c'', rfl, hk⟩
          · exact .requestStop c' o h1 h2 hs
          · exact .requested c'' o h1 h2 (ih hk)
        rw [if_neg h3] at h
        by_cases h4 : s = .pageLoadInProgress ∨ s = .pageShowInProgress
        · rw [if_pos h4] at h; exact .waiting s c' o h1 h2 h3 h4 (ih h)
        · rw [if_neg h4] at h
          cases h
          exact .unexpected _ fun s' hs' => by cases hs'; exact ⟨h1, h2, h3, not_or.mp h4⟩

theorem switchPage_refines (a : UInt16) (target trigger : State) (op : Op) (fuel : Nat) :
    (switchPage a target trigger op fuel).ConvsIn (SwitchSpec a target trigger op) :=
  .of_conv fun _ _ => switchPage_sound a target trigger op fuel

/-- Every conversation the polling protocol allows — other than the model's own out-of-fuel
    artefact — is a conversation of `switchPage`, for every fuel larger than the conversation is long. -/
theorem switchPage_complete (a : UInt16) (target trigger : State) (op : Op) (fuel : Nat) {c : List Ex}
    {o : Outcome Unit} (h : SwitchSpec a target trigger op c o) (ho : o ≠ .outOfFuel)
    (hf : c.length < fuel) : (switchPage a target trigger op fuel).Conv c o := by
  induction fuel generalizing c with
  | zero => omega
  | succ f ih =>
    unfold switchPage
    cases h with
    | queryStarved => exact .starved _ _
    | queryBus => exact .bus _ _
    | showing => exact .step _ _ _ [] _ (by simp only [ownReport?_self, ↓reduceIte]; exact .done ())
    | reached => exact .step _ _ _ [] _ (by simp only [ownReport?_self, ↓reduceIte]; split <;> exact .done ())
    | requestStop c o ht1 ht2 hs =>
      exact .step _ _ _ c o (by simp only [ownReport?_self, ht1, ht2, ↓reduceIte]; exact conv_expect.mpr (.inl hs))
    | requested c o ht1 ht2 h =>
      refine .step _ _ _ _ o ?_
      simp only [ownReport?_self, ht1, ht2, ↓reduceIte]
      exact conv_expect.mpr (.inr ⟨c, rfl, ih h (by simp at hf; omega)⟩)
    | waiting s c o h1 h2 h3 hs h =>
      refine .step _ _ _ c o ?_
      simp only [ownReport?_self, h1, h2, h3, hs, ↓reduceIte]
      exact ih h (by simp at hf; omega)
    | unexpected r hr =>
      refine .step _ _ r [] _ ?_
      cases hor : ownReport? a r with
      | none => exact .fail
      | some s =>
        obtain ⟨h1, h2, h3, h4, h5⟩ := hr s ((ownReport?_eq_some a r s).1 hor)
        simp only [h1, h2, h3, h4, h5, ↓reduceIte, or_self]
        exact .fail
    | outOfFuel => exact absurd rfl ho

/-- Each round of the polling loop takes at least one exchange. -/
theorem switchPage_outOfFuel {a : UInt16} {target trigger : State} {op : Op} {fuel : Nat} {c : List Ex}
    (h : (switchPage a target trigger op fuel).Conv c .outOfFuel) : fuel ≤ c.length := by
  induction fuel generalizing c with
  | zero => exact Nat.zero_le _
  | succ fuel ih =>
    unfold switchPage at h
    cases h with | step _ _ r c' _ h =>
    apply Nat.succ_le_succ
    -- every way out of a round other than another round ends with another outcome
    dsimp only at h
    split at h
    next =>
      split at h; · cases h
      split at h; · cases h
      split at h
      · rcases conv_expect.mp h with hs | ⟨c'', rfl, hk⟩
        · cases hs
        · exact Nat.le_succ_of_le (ih hk)
      split at h
      · exact ih h
      · cases h
    next => cases h

theorem switch_fuel_enough (a : UInt16) (target trigger : State) (op : Op) (fuel : Nat)
    (script : List Reply) (h : script.length < fuel) :
    ((switchPage a target trigger op fuel).run script).2 ≠ .outOfFuel := fun ho => by
  have hc := (switchPage a target trigger op fuel).conv_of_run script
  have hl := (switchPage a target trigger op fuel).run_length_le script (by simp [ho])
  rw [ho] at hc
  exact absurd (Nat.le_trans (switchPage_outOfFuel hc) hl) (by omega)

end Flipdot
