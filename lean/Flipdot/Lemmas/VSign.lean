/-
The virtual sign.  Each operation is written once as an update of the record; `VSign.Step` lists the effects
one message can have on one sign (`vstep_step`), so a fact about all steps is proved by cases on `Step`.  The
reachable-state invariant `VSign.Inv` is preserved by three kinds of update (`Inv.setState`, `Inv.dropBuffers`,
`Inv.flush`), which cover every operation but a data chunk (`Inv.sendData`: a sign receiving pixels is asked
nothing about its buffers, one receiving its configuration has no pages).  One message on the bus is the
relation `BusStep`.
-/
import Flipdot.Model.VSign
import Flipdot.Spec.SignSide

namespace Flipdot
open C13 (legal target afterReport closeGroup)

def State.receiving : State → Bool
  | .configInProgress | .pixelsInProgress => true
  | _ => false

/-- The states before any pixel transfer: a sign in one of them stores no pages (`Inv.noPages`). -/
def State.configPhase : State → Bool
  | .unconfigured | .configInProgress | .configReceived | .configFailed => true
  | _ => false

theorem State.receiving_false {st : State} :
    st.receiving = false ↔ st ≠ .configInProgress ∧ st ≠ .pixelsInProgress := by
  cases st <;> simp [State.receiving]

theorem closeGroup_nil (w h : Nat) (pages : List Page) : closeGroup w h pages [] = pages := if_pos rfl

theorem mem_closeGroup {w h : Nat} {pages : List Page} {cur : List UInt8} {p : Page}
    (hp : p ∈ closeGroup w h pages cur) :
    p ∈ pages ∨ p = ⟨w, h, cur⟩ ∧ cur.length = totalBytes w h := by
  unfold closeGroup at hp
  split at hp
  · exact .inl hp
  · split at hp
    · rename_i hc
      rcases List.mem_append.mp hp with hp | hp
      · exact .inl hp
      · exact .inr ⟨List.mem_singleton.mp hp, hc.2.2⟩
    · exact .inl hp

/-- `flush_pixels` closes the buffered group and touches nothing else. -/
theorem VSign.flush_eq (s : VSign) :
    s.flush = { s with pages := closeGroup s.w s.h s.pages s.pending, pending := [] } := by
  obtain ⟨a, sty, st, pages, pending, c, w, h, t⟩ := s
  unfold VSign.flush closeGroup Page.fromBytes
  by_cases hp : pending = []
  · simp [hp]
  · by_cases hwh : w > 0 ∧ h > 0
    · by_cases hl : pending.length = totalBytes w h <;> simp [hp, hwh, hl]
    · have : ¬ (w > 0 ∧ h > 0 ∧ pending.length = totalBytes w h) := fun hh => hwh ⟨hh.1, hh.2.1⟩
      simp [hp, hwh, this]

theorem VSign.flush_empty (s : VSign) (h : s.pending = []) : s.flush = s := by
  rw [flush_eq, h, closeGroup_nil, ← h]

theorem VSign.chunksSent_eq (s : VSign) (n : UInt16) :
    s.chunksSent n = { s with state := s.state.afterCount (s.chunks == n.toNat),
                              pages := closeGroup s.w s.h s.pages s.pending, pending := [], chunks := 0 } := by
  unfold VSign.chunksSent; rw [flush_eq]

theorem VSign.queryState_eq (s : VSign) :
    s.queryState = ({ s with state := afterReport s.state }, some (.reportState s.addr s.state)) := by
  unfold VSign.queryState afterReport
  cases hs : s.state <;> simp [← hs]

theorem VSign.sendData_pixels (s : VSign) (off : UInt16) (d : List UInt8) (hs : s.state = .pixelsInProgress) :
    s.sendData off d = .ok ((if off = 0 then s.flush else s).appendChunk d) := by
  unfold VSign.sendData; simp [hs]

theorem VSign.sendData_idle (s : VSign) (off : UInt16) (d : List UInt8) (hs : s.state.receiving = false) :
    s.sendData off d = .ok s := by
  obtain ⟨h1, h2⟩ := State.receiving_false.mp hs
  simp [VSign.sendData, h1, h2]

theorem VSign.sendData_cases {s s' : VSign} {off : UInt16} {d : List UInt8} (h : s.sendData off d = .ok s') :
    s' = s ∨
    (s.state = .configInProgress ∧
      ∃ t w h, s' = { s with signType := t, w := w, h := h, chunks := satSucc s.chunks }) ∨
    (s.state = .pixelsInProgress ∧ s' = (if off = 0 then s.flush else s).appendChunk d) := by
  unfold VSign.sendData at h
  split at h
  · rename_i hc
    split at h
    · cases h
    · cases h; exact .inl rfl
    · split at h <;> cases h
      exact .inr (.inl ⟨hc.1, _, _, _, rfl⟩)
  · split at h <;> cases h
    · rename_i hs; exact .inr (.inr ⟨hs, rfl⟩)
    · exact .inl rfl

theorem VSign.sendData_addr_state {s s' : VSign} {off : UInt16} {d : List UInt8} (h : s.sendData off d = .ok s') :
    s'.addr = s.addr ∧ s'.state = s.state := by
  rcases sendData_cases h with rfl | ⟨_, _, _, _, rfl⟩ | ⟨_, rfl⟩
  · exact ⟨rfl, rfl⟩
  · exact ⟨rfl, rfl⟩
  · split <;> simp [VSign.appendChunk, VSign.flush_eq]

/-- The digest of a 16-byte configuration block: every indexing is in bounds. -/
theorem configDims_len16 (data : List UInt8) (h : data.length = 16) :
    configDims data = .ok (
      if data.getD 0 0 = 0x04 then
        some ((data.getD 5 0).toNat + (data.getD 6 0).toNat + (data.getD 7 0).toNat + (data.getD 8 0).toNat,
              (data.getD 4 0).toNat)
      else if data.getD 0 0 = 0x08 then some ((data.getD 7 0).toNat, (data.getD 5 0).toNat)
      else none) := by
  have g : ∀ i, i < 16 → data[i]? = some (data.getD i 0) := fun i hi => by
    rw [List.getD_eq_getElem?_getD, List.getElem?_eq_getElem (h ▸ hi)]; rfl
  unfold configDims
  simp only [g 0 (by omega), g 4 (by omega), g 5 (by omega), g 6 (by omega), g 7 (by omega), g 8 (by omega)]
  split
  · rfl
  · split <;> rfl

def VSign.accept (s : VSign) : Op → VSign
  | .receivePixels => { s with state := .pixelsInProgress, pages := [] }
  | .startReset => { s with state := .readyToReset, pending := [], chunks := 0 }
  | .finishReset => s.reset
  | op => { s with state := target op }

theorem VSign.accept_fields (s : VSign) (op : Op) :
    (s.accept op).state = target op ∧ (s.accept op).addr = s.addr ∧ (s.accept op).style = s.style := by
  cases op <;> exact ⟨rfl, rfl, rfl⟩

theorem canReceivePixels_eq (st : State) : VSign.canReceivePixels st = legal .receivePixels st := by
  cases st <;> rfl

/-- An operation request to the sign's own address: acknowledged and carried out exactly when legal. -/
theorem vstep_request (s : VSign) (op : Op) :
    vstep s (.requestOp s.addr op) =
      .ok (if legal op s.state = true then (s.accept op, some (.ackOp s.addr op)) else (s, none)) := by
  -- arm by arm: the test `vstep` makes on `s.state` is `legal op` spelt as a proposition, the update it makes
  -- is `accept op`; the two sides then differ only in where `.ok` stands
  cases op <;>
    simp only [vstep, ne_eq, not_true_eq_false, ↓reduceIte, canReceivePixels_eq, legal, VSign.accept,
      Bool.or_eq_true, beq_iff_eq] <;>
    first | rfl | (split <;> rfl)

theorem vstep_request_legal {s : VSign} {op : Op} (h : legal op s.state = true) :
    vstep s (.requestOp s.addr op) = .ok (s.accept op, some (.ackOp s.addr op)) := by
  rw [vstep_request, if_pos h]

theorem vstep_data {s s' : VSign} {off : UInt16} {d : List UInt8} (h : s.sendData off d = .ok s') :
    vstep s (.sendData off d) = .ok (s', none) := by
  simp only [vstep, h]

/-- What one message can do to one sign.  An over-approximation of `vstep`: every step is one of these
    (`vstep_step`), but not conversely, since `ignored` is there for every message. -/
inductive VSign.Step (s : VSign) : Msg → VSign → Option Msg → Prop
  | ignored (m : Msg) : Step s m s none
  | query {m : Msg} : m = .hello s.addr ∨ m = .queryState s.addr →
      Step s m { s with state := afterReport s.state } (some (.reportState s.addr s.state))
  | request (op : Op) : legal op s.state = true →
      Step s (.requestOp s.addr op) (s.accept op) (some (.ackOp s.addr op))
  | data {off : UInt16} {d : List UInt8} {s' : VSign} : s.sendData off d = .ok s' →
      Step s (.sendData off d) s' none
  | count (n : UInt16) : Step s (.chunksSent n) (s.chunksSent n) none
  | complete : s.state = .pixelsReceived →
      Step s (.pixelsComplete s.addr)
        { s with state := match s.style with | .automatic => .showingPages | .manual => .pageLoaded } none
  | goodbye : Step s (.goodbye s.addr) s.reset none

theorem vstep_step {s s' : VSign} {m : Msg} {r : Option Msg} (h : vstep s m = .ok (s', r)) :
    s.Step m s' r := by
  cases m with
  | hello a | queryState a =>
    simp only [vstep, VSign.queryState_eq] at h
    split at h <;> cases h
    · rename_i ha; subst ha; exact .query (by simp)
    · exact .ignored _
  | requestOp a op =>
    by_cases ha : a = s.addr
    · subst ha
      rw [vstep_request] at h
      split at h <;> cases h
      · rename_i hl; exact .request op hl
      · exact .ignored _
    · simp only [vstep, ne_eq, ha, not_false_eq_true, ↓reduceIte] at h
      cases h; exact .ignored _
  | sendData off d =>
    simp only [vstep] at h
    split at h <;> cases h
    rename_i ht; exact .data ht
  | chunksSent n => cases h; exact .count n
  | pixelsComplete a =>
    simp only [vstep] at h
    split at h <;> cases h
    · rename_i hc; obtain ⟨ha, hs⟩ := hc; subst ha; exact .complete hs
    · exact .ignored _
  | goodbye a =>
    simp only [vstep] at h
    split at h <;> cases h
    · rename_i ha; subst ha; exact .goodbye
    · exact .ignored _
  | reportState a st | ackOp a op | unknown f => cases h; exact .ignored _

theorem vstep_addr {s s' : VSign} {m : Msg} {r : Option Msg} (h : vstep s m = .ok (s', r)) : s'.addr = s.addr := by
  cases vstep_step h with
  | ignored | query | goodbye | complete => rfl
  | request op => exact (s.accept_fields op).2.1
  | count n => rw [VSign.chunksSent_eq]
  | data hd => exact (VSign.sendData_addr_state hd).1

/-- Invariant of every state a virtual sign can be driven into. -/
structure VSign.Inv (s : VSign) : Prop where
  idle : s.state.receiving = false → s.chunks = 0 ∧ s.pending = []
  cfgNoPending : s.state = .configInProgress → s.pending = []
  noPages : s.state.configPhase = true → s.pages = []
  blank : s.state = .unconfigured → s.w = 0 ∧ s.h = 0 ∧ s.signType = none
  pagesOK : ∀ p ∈ s.pages, p.w = s.w ∧ p.h = s.h ∧ p.WF

theorem VSign.inv_new (a : UInt16) (st : FlipStyle) : (VSign.new a st).Inv := by
  constructor <;> simp [VSign.new]

theorem VSign.inv_reset (s : VSign) : s.reset.Inv := VSign.inv_new s.addr s.style

theorem VSign.Inv.pending_nil {s : VSign} (hi : s.Inv) (h : s.state ≠ .pixelsInProgress) : s.pending = [] := by
  by_cases hc : s.state = .configInProgress
  · exact hi.cfgNoPending hc
  · exact (hi.idle (State.receiving_false.mpr ⟨hc, h⟩)).2

/-- What `VSign.Inv` asks of the buffers in state `st'` (the premises of `idle`, `cfgNoPending`, `noPages`,
    `blank`) it asks in `st` already, so the state may change from `st` to `st'` with the buffers left
    alone.  Decided, so that on the tables of the sign-side machine it is settled by evaluation. -/
def State.covers (st st' : State) : Bool :=
  decide ((st'.receiving = false → st.receiving = false) ∧
    (st' = .configInProgress → st = .configInProgress ∨ st.receiving = false) ∧
    (st'.configPhase = true → st.configPhase = true) ∧
    (st' = .unconfigured → st = .unconfigured))

theorem VSign.Inv.setState {s : VSign} (hi : s.Inv) {st' : State} (h : s.state.covers st' = true) :
    ({ s with state := st' } : VSign).Inv :=
  have ⟨h1, h2, h3, h4⟩ := of_decide_eq_true h
  { idle := fun hr => hi.idle (h1 hr)
    cfgNoPending := fun hc => (h2 hc).elim hi.cfgNoPending fun hr => (hi.idle hr).2
    noPages := fun hc => hi.noPages (h3 hc)
    blank := fun hu => hi.blank (h4 hu)
    pagesOK := hi.pagesOK }

/-- Emptying the buffers allows any state that is not new to the configuration phase. -/
theorem VSign.Inv.dropBuffers {s : VSign} (hi : s.Inv) {st' : State}
    (hc : st'.configPhase = true → s.state.configPhase = true)
    (hu : st' = .unconfigured → s.state = .unconfigured) :
    ({ s with state := st', pending := [], chunks := 0 } : VSign).Inv :=
  { idle := fun _ => ⟨rfl, rfl⟩
    cfgNoPending := fun _ => rfl
    noPages := fun h => hi.noPages (hc h)
    blank := fun h => hi.blank (hu h)
    pagesOK := hi.pagesOK }

theorem VSign.Inv.flush {s : VSign} (hi : s.Inv) : s.flush.Inv := by
  rw [VSign.flush_eq]
  exact {
    idle := fun hr => ⟨(hi.idle hr).1, rfl⟩
    cfgNoPending := fun _ => rfl
    noPages := fun hc => by
      have hp : s.pending = [] := hi.pending_nil (fun h => by rw [h] at hc; cases hc)
      rw [hp, closeGroup_nil]; exact hi.noPages hc
    blank := hi.blank
    pagesOK := fun p hp => by
      rcases mem_closeGroup hp with hp | ⟨rfl, hl⟩
      · exact hi.pagesOK p hp
      · exact ⟨rfl, rfl, hl⟩ }

theorem State.afterCount_configPhase (st : State) (ok : Bool) :
    (st.afterCount ok).configPhase = st.configPhase := by cases st <;> cases ok <;> rfl

theorem State.afterCount_unconfigured {st : State} {ok : Bool} (h : st.afterCount ok = .unconfigured) :
    st = .unconfigured := by cases st <;> cases ok <;> first | rfl | cases h

theorem State.afterCount_idle {st : State} (h : st.receiving = false) (ok : Bool) : st.afterCount ok = st := by
  cases st <;> first | rfl | cases h

/-- Outside a transfer the chunk count finds nothing to close and nothing counted. -/
theorem VSign.Inv.chunksSent_idle {s : VSign} (hi : s.Inv) (hr : s.state.receiving = false) (n : UInt16) :
    s.chunksSent n = s := by
  obtain ⟨hc, hp⟩ := hi.idle hr
  rw [chunksSent_eq, State.afterCount_idle hr, hp, closeGroup_nil]
  -- the fields written are the ones `s` has
  rw [← hc, ← hp]

theorem State.covers_afterReport (st : State) : st.covers (afterReport st) = true := by cases st <;> rfl

theorem State.covers_target {op : Op} {st : State} (h : legal op st = true) (hs : op ≠ .startReset)
    (hf : op ≠ .finishReset) : st.covers (target op) = true := by
  cases op <;> first | exact absurd rfl hs | exact absurd rfl hf | (revert h; cases st <;> decide)

theorem VSign.Inv.chunksSent {s : VSign} (hi : s.Inv) (n : UInt16) : (s.chunksSent n).Inv := by
  have hf := hi.flush
  rw [flush_eq] at hf
  rw [chunksSent_eq]
  exact hf.dropBuffers (fun h => by rwa [State.afterCount_configPhase] at h) State.afterCount_unconfigured

theorem VSign.Inv.accept {s : VSign} (hi : s.Inv) {op : Op} (hl : legal op s.state = true) :
    (s.accept op).Inv := by
  cases op with
  | startReset => exact hi.dropBuffers nofun nofun
  | finishReset => exact s.inv_reset
  | receivePixels =>
    exact { hi.setState (State.covers_target hl nofun nofun) with noPages := fun _ => rfl, pagesOK := nofun }
  | _ => exact hi.setState (State.covers_target hl nofun nofun)

/-- A sign receiving pixels is asked nothing about its buffers. -/
theorem VSign.inv_of_pixelsInProgress {t : VSign} (hs : t.state = .pixelsInProgress)
    (hp : ∀ p ∈ t.pages, p.w = t.w ∧ p.h = t.h ∧ p.WF) : t.Inv := by
  refine ⟨?_, ?_, ?_, ?_, hp⟩ <;> simp [hs, State.receiving, State.configPhase]

theorem VSign.Inv.sendData {s s' : VSign} {off : UInt16} {data : List UInt8} (hi : s.Inv)
    (h : s.sendData off data = .ok s') : s'.Inv := by
  rcases sendData_cases h with rfl | ⟨hs, t, w, h, rfl⟩ | ⟨hs, rfl⟩
  · exact hi
  · -- configuration in progress: no pages yet, so the new size fits them all
    have hp := hi.noPages (by rw [hs]; rfl)
    constructor <;> simp [hs, hp, State.receiving]
    exact hi.cfgNoPending hs
  · split
    · exact inv_of_pixelsInProgress (t := s.flush.appendChunk data) (by rw [flush_eq]; exact hs) hi.flush.pagesOK
    · exact inv_of_pixelsInProgress (t := s.appendChunk data) hs hi.pagesOK

theorem VSign.Inv.vstep {s s' : VSign} {m : Msg} {r : Option Msg} (hi : s.Inv)
    (h : vstep s m = .ok (s', r)) : s'.Inv := by
  cases vstep_step h with
  | ignored => exact hi
  | query => exact hi.setState (State.covers_afterReport _)
  | request op hl => exact hi.accept hl
  | data hd => exact hi.sendData hd
  | count n => exact hi.chunksSent n
  | complete hs => exact hi.setState (by rw [hs]; cases s.style <;> rfl)
  | goodbye => exact s.inv_reset

/-- The states a virtual sign can be driven into from `VirtualSign::new` by any message history. -/
inductive VSign.Reachable : VSign → Prop where
  | init (a : UInt16) (st : FlipStyle) : VSign.Reachable (VSign.new a st)
  | step {s s' : VSign} {m : Msg} {r : Option Msg} :
      VSign.Reachable s → vstep s m = .ok (s', r) → VSign.Reachable s'

theorem VSign.Reachable.inv {s : VSign} (h : s.Reachable) : s.Inv := by
  induction h with
  | init a st => exact VSign.inv_new a st
  | step _ hs ih => exact ih.vstep hs

/-- `busStep` where no sign panics (none ever does: `C12.vstep_no_panic`): signs are offered the message
    in turn until one replies. -/
inductive BusStep (m : Msg) : List VSign → List VSign → Option Msg → Prop
  | nil : BusStep m [] [] none
  | reply {s s' : VSign} {x : Msg} {rest : List VSign} :
      vstep s m = .ok (s', some x) → BusStep m (s :: rest) (s' :: rest) (some x)
  | pass {s s' : VSign} {rest rest' : List VSign} {r : Option Msg} :
      vstep s m = .ok (s', none) → BusStep m rest rest' r → BusStep m (s :: rest) (s' :: rest') r

theorem busStep_rel {bus bus' : List VSign} {m : Msg} {r : Option Msg} (h : busStep bus m = .ok (bus', r)) :
    BusStep m bus bus' r := by
  fun_induction busStep bus m generalizing bus' r with
  | case1 => cases h; exact .nil
  | case3 s rest m s' x hs => cases h; exact .reply hs
  | case5 s rest m s' hs rest' r' hr ih => cases h; exact .pass hs (ih hr)
  | case2 | case4 => cases h

theorem BusStep.eq {bus bus' : List VSign} {m : Msg} {r : Option Msg} (h : BusStep m bus bus' r) :
    busStep bus m = .ok (bus', r) := by
  induction h with
  | nil => rfl
  | reply hs => simp only [busStep, hs]
  | pass hs _ ih => simp only [busStep, hs, ih]

theorem BusStep.addrs {m : Msg} {bus bus' : List VSign} {r : Option Msg} (h : BusStep m bus bus' r) :
    bus'.map (·.addr) = bus.map (·.addr) := by
  induction h with
  | nil => rfl
  | reply hs => simp [vstep_addr hs]
  | pass hs _ ih => simp [vstep_addr hs, ih]

/-- Signs that alone would ignore the message are found unchanged at their place. -/
theorem BusStep.unchanged {C : VSign → Prop} {m : Msg} {bus bus' : List VSign} {r : Option Msg}
    (h : BusStep m bus bus' r) (hC : ∀ s, C s → vstep s m = .ok (s, none)) :
    bus'.length = bus.length ∧ ∀ (i : Nat) (s : VSign), bus[i]? = some s → C s → bus'[i]? = some s := by
  induction h with
  | nil => exact ⟨rfl, by simp⟩
  | reply hs =>
    refine ⟨rfl, fun i t hi ht => ?_⟩
    cases i with
    | zero => cases hi; rw [hC _ ht] at hs; cases hs
    | succ i => exact hi
  | pass hs _ ih =>
    refine ⟨congrArg (· + 1) ih.1, fun i t hi ht => ?_⟩
    cases i with
    | zero => cases hi; rw [hC _ ht] at hs; cases hs; rfl
    | succ i => exact ih.2 i t hi ht

theorem BusStep.reply_of {m x : Msg} {bus bus' : List VSign} {r : Option Msg} (h : BusStep m bus bus' r)
    (hx : r = some x) : ∃ s ∈ bus, ∃ s', vstep s m = .ok (s', some x) := by
  induction h with
  | nil => cases hx
  | reply hs => cases hx; exact ⟨_, List.mem_cons_self .., _, hs⟩
  | pass _ _ ih => obtain ⟨s, hs, h⟩ := ih hx; exact ⟨s, List.mem_cons_of_mem _ hs, h⟩

/-- Signs that ignore the message hand it on to those behind them. -/
theorem BusStep.skip {m : Msg} {pre rest rest' : List VSign} {r : Option Msg}
    (hpre : ∀ t ∈ pre, vstep t m = .ok (t, none)) (h : BusStep m rest rest' r) :
    BusStep m (pre ++ rest) (pre ++ rest') r := by
  induction pre with
  | nil => exact h
  | cons t pre ih =>
    exact .pass (hpre t (List.mem_cons_self ..)) (ih fun u hu => hpre u (List.mem_cons_of_mem _ hu))

end Flipdot
