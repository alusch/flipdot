/-
Lemmas for C02: how the decoder model reacts to damaged encodings.  Three reasons reject everything:
an accepted string has odd length (`dec_ok_odd`); it is ':' + hex digits + optional CR LF and nothing else
(`dec_ok_digits`, with `nonhex` counting the characters that are no digits); its numeric fields sum to zero
and begin with their own count (`bsum_numsF`, `numsF_prefix`).  `split_wire` and `split_hexUpper` place a
position of the string in a digit of a numeric byte; `Noticed N A` says of digits `A` that the checksum tells
them from those of `N`, and `noticed_safe` is what that gives for `dec`.
-/
import Flipdot.Lemmas.Decode
namespace Flipdot

/-- Replacing a window of a list changes the sum exactly as it changes the window's sum. -/
theorem bsum_mid (A W W' B : List UInt8) :
    bsum (A ++ W' ++ B) = bsum (A ++ W ++ B) ↔ bsum W' = bsum W := by
  simp only [bsum_append, UInt8.add_left_inj, UInt8.add_right_inj]

/-- The numeric fields begin with their own count: no frame's fields are a proper prefix of
    another's. -/
theorem numsF_prefix {f g : Frame} (hf : f.WF) (hg : g.WF) {rest : List UInt8}
    (h : numsF f = numsF g ++ rest) : g = f := by
  have hl : g.data.length = f.data.length := by
    have : UInt8.ofNat f.data.length = UInt8.ofNat g.data.length := by
      simpa [numsF, payload] using congrArg List.head? h
    rw [← ofNat_len_toNat _ hg, ← ofNat_len_toNat _ hf, this]
  have := congrArg List.length h
  rw [List.length_append, numsF_length, numsF_length, hl] at this
  obtain rfl : rest = [] := List.eq_nil_of_length_eq_zero (by omega)
  exact numsF_inj f g hf hg (by simpa using h.symm)

theorem dec_ok_odd {bs : List UInt8} {g : Frame} (h : dec bs = .ok g) : bs.length % 2 = 1 := by
  obtain ⟨D, nl, rfl, hD⟩ := dec_ok_digits h
  have := (hexPairs_some hD).1
  cases nl <;> simp [term] <;> omega

theorem wire_odd (f : Frame) (nl : Bool) : (wire f nl).length % 2 = 1 := by
  have := hexUpper_length (numsF f)
  cases nl <;> simp [wire, term] <;> omega

theorem dec_ne_ok_of_parity {f : Frame} {nl : Bool} {bs : List UInt8}
    (h : (bs.length + (wire f nl).length) % 2 = 1) (g : Frame) : dec bs ≠ .ok g := fun hd => by
  have := dec_ok_odd hd
  have := wire_odd f nl
  omega

/-- Of two accepted strings one of which begins the other, both decode to the same frame. -/
theorem dec_prefix {s post : List UInt8} {f g : Frame} (hg : dec s = .ok g) (hf : dec (s ++ post) = .ok f) :
    g = f := by
  obtain ⟨D', nl', rfl, hD'⟩ := dec_ok_digits hg
  obtain ⟨D, nl, hs, hD⟩ := dec_ok_digits hf
  have hs' : D' ++ (term nl' ++ post) = D ++ term nl := by simpa using hs
  have hwf := (accepted _ _ hf).2
  have hwg := (accepted _ _ hg).2
  rcases List.append_eq_append_iff.mp hs' with ⟨a, h1, _⟩ | ⟨c, h1, h2⟩
  · -- more digits follow: the fields read so far begin the longer string's fields
    rw [h1, hexPairs_append hD'] at hD
    cases ha : hexPairs a with
    | none => rw [ha] at hD; cases hD
    | some r => rw [ha] at hD; exact numsF_prefix hwf hwg (Option.some.inj hD).symm
  · cases c with
    | nil =>
      rw [List.append_nil] at h1; subst h1
      rw [hD] at hD'
      exact numsF_inj f g hwf hwg (Option.some.inj hD').symm
    | cons x c' =>
      -- a digit of the shorter string would have to be the longer one's CR
      have hx : isHex x = true := (hexPairs_some hD').2 x (by rw [h1]; simp)
      cases nl <;> simp [term] at h2
      exact absurd h2.1 (isHex_ne hx not_isHex_13).symm

def nonhex (A : List UInt8) : Nat := (A.filter (fun c => !isHex c)).length

theorem nonhex_append (A B : List UInt8) : nonhex (A ++ B) = nonhex A + nonhex B := by
  simp [nonhex]

theorem nonhex_cons (c : UInt8) (A : List UInt8) :
    nonhex (c :: A) = (if isHex c then 0 else 1) + nonhex A := by
  by_cases h : isHex c = true <;> simp [nonhex, h] <;> omega

theorem nonhex_of_all_hex (A : List UInt8) (h : ∀ c ∈ A, isHex c = true) : nonhex A = 0 := by
  simp only [nonhex, List.length_eq_zero_iff, List.filter_eq_nil_iff]
  intro c hc; simp [h c hc]

theorem all_hex_of_nonhex_zero (A : List UInt8) (h : nonhex A = 0) : ∀ c ∈ A, isHex c = true := by
  simp only [nonhex, List.length_eq_zero_iff, List.filter_eq_nil_iff] at h
  intro c hc
  simpa using h c hc

theorem nonhex_hexUpper (N : List UInt8) : nonhex (hexUpper N) = 0 :=
  nonhex_of_all_hex _ (hexUpper_all_hex N)

/-- With at most one character that is not a hex digit before it, a terminator is neither faked nor
    hidden (CR LF would take two). -/
theorem numsOf_digits (A : List UInt8) (nl : Bool) (h : nonhex A ≤ 1) :
    numsOf (58 :: (A ++ term nl)) = hexPairs A := by
  have hA : ¬ EndsCRLF A := by
    rintro ⟨p, rfl⟩
    have : nonhex [13, 10] = 2 := by decide
    rw [nonhex_append] at h
    omega
  rw [numsOf, stripCRLF_term hA]

/-- Any two last characters other than CR LF stay, so a character that is no hex digit anywhere
    rejects the string. -/
theorem dec_bad_term (A : List UInt8) (a b c : UInt8) (h : ¬(a = 13 ∧ b = 10))
    (hc : c ∈ A ++ [a, b]) (hn : isHex c = false) (g : Frame) : dec (58 :: (A ++ [a, b])) ≠ .ok g := by
  refine dec_ne_ok_of_numsOf_none ?_ g
  rw [numsOf, stripCRLF_append_two, if_neg h]
  exact hexPairs_none_of_nonhex _ c hc hn

theorem hexUpper_mid (NA : List UInt8) (b : UInt8) (NB : List UInt8) :
    hexUpper (NA ++ b :: NB) = hexUpper NA ++ hiD b :: loD b :: hexUpper NB := by
  rw [hexUpper_append, hexUpper_cons]

/-- Position in the whole string: the colon, a digit, the CR or the LF. -/
theorem split_wire (D : List UInt8) (nl : Bool) (pre post : List UInt8) (x : UInt8)
    (h : 58 :: (D ++ term nl) = pre ++ x :: post) :
    (pre = [] ∧ x = 58 ∧ post = D ++ term nl) ∨
    (∃ dpre dpost, D = dpre ++ x :: dpost ∧ pre = 58 :: dpre ∧ post = dpost ++ term nl) ∨
    (nl = true ∧ pre = 58 :: D ∧ x = 13 ∧ post = [10]) ∨
    (nl = true ∧ pre = 58 :: (D ++ [13]) ∧ x = 10 ∧ post = []) := by
  cases pre with
  | nil => simp at h; exact .inl ⟨rfl, h.1.symm, h.2.symm⟩
  | cons p pre' =>
    simp only [List.cons_append, List.cons.injEq] at h
    obtain ⟨rfl, h⟩ := h
    refine .inr ?_
    rcases List.append_eq_append_iff.mp h with ⟨a, h1, h2⟩ | ⟨c, h1, h2⟩
    · -- `D` is a prefix of `pre'`: the position is in the terminator
      refine .inr ?_
      cases nl <;> simp only [term, Bool.false_eq_true, ↓reduceIte] at h2
      · simp at h2
      · match a, h2 with
        | [], h2 => simp at h2; exact .inl ⟨rfl, by simp [h1], h2.1.symm, h2.2.symm⟩
        | [t], h2 => simp at h2; exact .inr ⟨rfl, by simp [h1, h2.1], h2.2.1.symm, h2.2.2⟩
        | _ :: _ :: _, h2 => simp at h2
    · -- `pre'` is a prefix of `D`: with nothing of `D` left the position is the CR, else it is inside the digits
      cases c with
      | nil =>
        refine .inr ?_
        cases nl <;> simp [term] at h2
        exact .inl ⟨rfl, by simpa using h1.symm, h2.1, h2.2⟩
      | cons y c' =>
        simp only [List.cons_append, List.cons.injEq] at h2
        obtain ⟨rfl, h2⟩ := h2
        exact .inl ⟨pre', c', h1, rfl, h2⟩

/-- Position inside the digits: the high or the low digit of some numeric byte. -/
theorem split_hexUpper (N dpre dpost : List UInt8) (x : UInt8) (h : hexUpper N = dpre ++ x :: dpost) :
    ∃ NA b NB, N = NA ++ b :: NB ∧
      ((dpre = hexUpper NA ∧ x = hiD b ∧ dpost = loD b :: hexUpper NB) ∨
       (dpre = hexUpper NA ++ [hiD b] ∧ x = loD b ∧ dpost = hexUpper NB)) := by
  -- a byte is two digits: position 0 is its `hiD`, position 1 its `loD`, anything further is one byte on
  induction N generalizing dpre with
  | nil => simp [hexUpper] at h
  | cons b0 N' ih =>
    rw [hexUpper_cons] at h
    match dpre, h with
    | [], h =>
      simp only [List.nil_append, List.cons.injEq] at h
      exact ⟨[], b0, N', rfl, .inl ⟨rfl, h.1.symm, h.2.symm⟩⟩
    | [d], h =>
      simp only [List.cons_append, List.nil_append, List.cons.injEq] at h
      exact ⟨[], b0, N', rfl, .inr ⟨by simp [hexUpper, h.1], h.2.1.symm, h.2.2.symm⟩⟩
    | d1 :: d2 :: dpre', h =>
      simp only [List.cons_append, List.cons.injEq] at h
      obtain ⟨NA, b, NB, hN, hcase⟩ := ih dpre' h.2.2
      refine ⟨b0 :: NA, b, NB, by simp [hN], ?_⟩
      rcases hcase with ⟨e1, e2, e3⟩ | ⟨e1, e2, e3⟩
      · exact .inl ⟨by rw [hexUpper_cons, e1, ← h.1, ← h.2.1], e2, e3⟩
      · exact .inr ⟨by rw [hexUpper_cons, e1, ← h.1, ← h.2.1]; simp, e2, e3⟩

theorem hexPairs_around (NA NB : List UInt8) (p q : UInt8) :
    hexPairs (hexUpper NA ++ p :: q :: hexUpper NB) =
      match hexVal? p, hexVal? q with
      | some h, some l => some (NA ++ (h * 16 + l) :: NB)
      | _, _ => none := by
  rw [hexPairs_append (hexPairs_hexUpper NA), hexPairs_pair, hexPairs_hexUpper]
  cases hexVal? p <;> cases hexVal? q <;> simp

/-- At most one of the digits `A` is no hex digit, and if they read as bytes with the sum of `N`, they read as `N`:
    the checksum notices every other reading. -/
def Noticed (N A : List UInt8) : Prop :=
  nonhex A ≤ 1 ∧ ∀ M, hexPairs A = some M → bsum M = bsum N → M = N

/-- Bytes that differ from `N` only inside a window whose sum tells its content, and have the sum of `N`, are `N`. -/
theorem noticed_window {N M : List UInt8} (NA W W' NB : List UInt8) (hN : N = NA ++ W ++ NB)
    (hM : M = NA ++ W' ++ NB) (hW : bsum W' = bsum W → W' = W) (hs : bsum M = bsum N) : M = N := by
  subst hN hM
  rw [hW ((bsum_mid NA W W' NB).mp hs)]

theorem bsum_single {b' b : UInt8} (h : bsum [b'] = bsum [b]) : [b'] = [b] := by
  simpa [bsum] using h

/-- One digit replaced by any character: at most one byte changes. -/
theorem noticed_subst {N dpre dpost : List UInt8} {x : UInt8} (c : UInt8)
    (hD : hexUpper N = dpre ++ x :: dpost) : Noticed N (dpre ++ c :: dpost) := by
  refine ⟨?_, fun M hM hs => ?_⟩
  · have := nonhex_hexUpper N
    rw [hD, nonhex_append, nonhex_cons] at this
    rw [nonhex_append, nonhex_cons]
    split <;> omega
  obtain ⟨NA, b, NB, rfl, hside⟩ := split_hexUpper _ dpre dpost x hD
  have key : ∀ p q, hexPairs (hexUpper NA ++ p :: q :: hexUpper NB) = some M → M = NA ++ b :: NB := by
    intro p q hM
    rw [hexPairs_around] at hM
    split at hM
    · exact noticed_window NA [b] [_] NB (by simp) (by simpa using (Option.some.inj hM).symm) bsum_single hs
    · cases hM
  rcases hside with ⟨rfl, rfl, rfl⟩ | ⟨rfl, rfl, rfl⟩
  · exact key _ _ hM
  · exact key _ _ (by simpa using hM)

/-- 15 is odd: exchanging a 16s digit with a units digit keeps the sum only if they are equal. -/
theorem swap_sum (h1 l1 h2 l2 : UInt8)
    (e : (h1 * 16 + h2) + (l1 * 16 + l2) = (h1 * 16 + l1) + (h2 * 16 + l2)) : l1 = h2 := by
  rw [UInt8.add_assoc, UInt8.add_assoc (h1 * 16), UInt8.add_right_inj, ← UInt8.add_assoc,
    ← UInt8.add_assoc l1, UInt8.add_left_inj] at e
  have := congrArg UInt8.toNat e
  simp at this
  apply UInt8.toNat_inj.mp
  have := l1.toNat_lt; have := h2.toNat_lt
  omega

theorem swap_same_byte : ∀ b : UInt8,
    (b &&& (0x0F : UInt8)) * (16 : UInt8) + (b >>> (4 : UInt8)) = b → (b &&& (0x0F : UInt8)) = (b >>> (4 : UInt8)) := by
  intro b e
  -- `swap_sum` for a byte of its own, the outer digits being 0
  refine swap_sum 0 _ _ 0 ?_
  rw [UInt8.zero_mul, UInt8.zero_add, UInt8.zero_add, UInt8.add_zero, UInt8.add_zero, UInt8.add_comm, e,
    UInt8.add_comm, nibbles_join]

/-- Two adjacent digits exchanged: one byte changes, or two neighbours exchange their inner digits. -/
theorem noticed_swap {N dpre dpost : List UInt8} {x y : UInt8}
    (hD : hexUpper N = dpre ++ x :: y :: dpost) : Noticed N (dpre ++ y :: x :: dpost) := by
  refine ⟨?_, fun M hM hs => ?_⟩
  · have := nonhex_hexUpper N
    rw [hD, nonhex_append, nonhex_cons, nonhex_cons] at this
    rw [nonhex_append, nonhex_cons, nonhex_cons]
    omega
  obtain ⟨NA, b, NB, rfl, hside⟩ := split_hexUpper _ dpre (y :: dpost) x hD
  rcases hside with ⟨rfl, rfl, hrest⟩ | ⟨rfl, rfl, hrest⟩
  · -- `x` is a high digit: the exchange stays inside the byte `b`
    obtain ⟨rfl, rfl⟩ := List.cons.inj hrest
    rw [hexPairs_around, hexVal_loD, hexVal_hiD] at hM
    exact noticed_window NA [b] [_] NB (by simp) (by simpa using (Option.some.inj hM).symm) bsum_single hs
  · -- `x` is a low digit: `y` is the high digit of the next byte `b2`
    cases NB with
    | nil => cases hrest
    | cons b2 NB' =>
      rw [hexUpper_cons] at hrest
      obtain ⟨rfl, rfl⟩ := List.cons.inj hrest
      rw [List.append_assoc, hexPairs_append (hexPairs_hexUpper NA), List.singleton_append,
        hexPairs_pair, hexVal_hiD, hexVal_hiD, hexPairs_pair, hexVal_loD, hexVal_loD,
        hexPairs_hexUpper] at hM
      refine noticed_window NA [b, b2] [_, _] NB' (by simp)
        (by simpa using (Option.some.inj hM).symm) (fun hs => ?_) hs
      have e := swap_sum (b >>> 4) (b &&& 0x0F) (b2 >>> 4) (b2 &&& 0x0F)
        (by simpa [bsum, nibbles_join] using hs)
      -- with the low digit of `b` equal to the high digit of `b2`, the two rebuilt bytes are `b` and `b2` again
      rw [← e, nibbles_join, e, nibbles_join]

/-- Digits that differ from the original's in a way the checksum notices: whatever is accepted is
    the original frame. -/
theorem noticed_safe {f g : Frame} (hf : f.WF) {nl : Bool} {A : List UInt8}
    (hN : Noticed (numsF f) A) (h : dec (58 :: (A ++ term nl)) = .ok g) : g = f := by
  obtain ⟨hM, hg⟩ := accepted _ g h
  rw [numsOf_digits A nl hN.1] at hM
  exact numsF_inj f g hf hg (hN.2 _ hM (by rw [bsum_numsF, bsum_numsF]))

end Flipdot
