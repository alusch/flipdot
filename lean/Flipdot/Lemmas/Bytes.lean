/-
Bytes as hex text and the two ends of a frame string: a byte against its two nibbles (`nibbles_toNat`), the
digit written for a nibble against the value `hexVal?` reads back (`hexVal_hexDigit`), whence
`hexPairs (hexUpper bs) = some bs`; what reads as bytes is hex digits, two per byte (`hexPairs_some`), and so
is what `hexUpper` writes; the optional CR LF (`term`, `stripCRLF`, `EndsCRLF`); the wrapping sum
`bsum` and the checksum `lrc`, which cancels it.
-/
import Flipdot.Model.Frame
namespace Flipdot

theorem UInt8.forall_of_fin {p : UInt8 → Prop} (h : ∀ i : Fin 256, p (UInt8.ofNat i.val)) :
    ∀ b, p b := by
  intro b
  have := h ⟨b.toNat, b.toNat_lt⟩
  simpa using this

theorem nibbles_toNat (b : UInt8) :
    (b >>> 4).toNat = b.toNat / 16 ∧ (b &&& 0x0F).toNat = b.toNat % 16 :=
  ⟨by simp [Nat.shiftRight_eq_div_pow], Nat.and_two_pow_sub_one_eq_mod b.toNat 4⟩

theorem nibbles_lt (b : UInt8) : b >>> 4 < 16 ∧ b &&& 0x0F < 16 := by
  have := b.toNat_lt
  constructor <;> apply UInt8.lt_iff_toNat_lt.mpr
  · rw [(nibbles_toNat b).1]; exact Nat.div_lt_of_lt_mul this
  · rw [(nibbles_toNat b).2]; exact Nat.mod_lt _ (by decide)

theorem nibbles_join (b : UInt8) : (b >>> 4) * 16 + (b &&& 0x0F) = b := by
  apply UInt8.toNat_inj.mp
  have := b.toNat_lt
  rw [UInt8.toNat_add, UInt8.toNat_mul, (nibbles_toNat b).1, (nibbles_toNat b).2]
  simp
  omega

theorem nibbles_of_join {x y : UInt8} (hx : x < 16) (hy : y < 16) :
    (x * 16 + y) >>> 4 = x ∧ (x * 16 + y) &&& 0x0F = y := by
  have hx : x.toNat < 16 := hx
  have hy : y.toNat < 16 := hy
  have hj : (x * 16 + y).toNat = x.toNat * 16 + y.toNat := by simp; omega
  constructor <;> apply UInt8.toNat_inj.mp
  · rw [(nibbles_toNat _).1]; omega
  · rw [(nibbles_toNat _).2]; omega

theorem hexVal_hexDigit : ∀ n : UInt8, n < 16 → hexVal? (hexDigit n) = some n := by
  apply UInt8.forall_of_fin; decide +kernel

-- The two digits `hexByte` writes.
def hiD (b : UInt8) : UInt8 := hexDigit (b >>> 4)
def loD (b : UInt8) : UInt8 := hexDigit (b &&& 0x0F)

theorem hexVal_hiD (b : UInt8) : hexVal? (hiD b) = some (b >>> 4) := hexVal_hexDigit _ (nibbles_lt b).1
theorem hexVal_loD (b : UInt8) : hexVal? (loD b) = some (b &&& 0x0F) := hexVal_hexDigit _ (nibbles_lt b).2

theorem hexByte_join {x y : UInt8} (hx : x < 16) (hy : y < 16) :
    hexByte (x * 16 + y) = [hexDigit x, hexDigit y] := by
  rw [hexByte, (nibbles_of_join hx hy).1, (nibbles_of_join hx hy).2]

theorem hexUpper_cons (b : UInt8) (bs : List UInt8) : hexUpper (b :: bs) = hiD b :: loD b :: hexUpper bs := rfl

theorem hexPairs_hexUpper (bs : List UInt8) : hexPairs (hexUpper bs) = some bs := by
  induction bs with
  | nil => rfl
  | cons b bs ih =>
    simp [hexUpper_cons, hexPairs, hexVal_hiD, hexVal_loD, ih, nibbles_join]

theorem hexUpper_append (a b : List UInt8) : hexUpper (a ++ b) = hexUpper a ++ hexUpper b := by
  induction a with
  | nil => rfl
  | cons x xs ih => simp [hexUpper, ih]

/-- ASCII hex digit of either case. -/
def isHex (c : UInt8) : Bool := (hexVal? c).isSome

theorem isHex_iff (c : UInt8) :
    isHex c = true ↔ (48 ≤ c ∧ c ≤ 57) ∨ (65 ≤ c ∧ c ≤ 70) ∨ (97 ≤ c ∧ c ≤ 102) := by
  unfold isHex hexVal?
  split
  · simp [*]
  · split
    · simp [*]
    · split <;> simp [*]

theorem not_isHex_13 : isHex 13 = false := by decide
theorem not_isHex_10 : isHex 10 = false := by decide

theorem isHex_ne {c d : UInt8} (hc : isHex c = true) (hd : isHex d = false) : c ≠ d := by
  rintro rfl; rw [hd] at hc; cases hc

theorem hexPairs_pair (p q : UInt8) (B : List UInt8) :
    hexPairs (p :: q :: B) =
      match hexVal? p, hexVal? q, hexPairs B with
      | some h, some l, some r => some ((h * 16 + l) :: r)
      | _, _, _ => none := rfl

theorem hexPairs_some {ds : List UInt8} {bs : List UInt8} (h : hexPairs ds = some bs) :
    ds.length = 2 * bs.length ∧ ∀ c ∈ ds, isHex c = true := by
  fun_induction hexPairs ds generalizing bs with
  | case1 => cases h; simp
  | case2 c => cases h
  | case3 a b rest x y r hr hb ha ih =>
    cases h
    obtain ⟨i1, i2⟩ := ih hr
    exact ⟨by simp [i1]; omega, by simpa [isHex, ha, hb] using i2⟩
  | case4 => cases h

theorem hexUpper_length (bs : List UInt8) : (hexUpper bs).length = 2 * bs.length :=
  (hexPairs_some (hexPairs_hexUpper bs)).1

theorem hexUpper_all_hex (bs : List UInt8) : ∀ c ∈ hexUpper bs, isHex c = true :=
  (hexPairs_some (hexPairs_hexUpper bs)).2

/-- Terminator of the two encodings. -/
def term (nl : Bool) : List UInt8 := if nl then [13, 10] else []

theorem stripCRLF_cons (c : UInt8) (cs : List UInt8) :
    stripCRLF (c :: cs) = if c = 13 ∧ cs = [10] then [] else c :: stripCRLF cs := by
  by_cases h : c = 13 ∧ cs = [10]
  · obtain ⟨rfl, rfl⟩ := h; rfl
  · rw [if_neg h, stripCRLF]
    exact fun h1 h2 => h ⟨h1, h2⟩

theorem stripCRLF_append_two (A : List UInt8) (a b : UInt8) :
    stripCRLF (A ++ [a, b]) = A ++ if a = 13 ∧ b = 10 then [] else [a, b] := by
  induction A with
  | nil => by_cases h : a = 13 ∧ b = 10 <;> simp [stripCRLF_cons, stripCRLF, h]
  | cons c cs ih =>
    rw [List.cons_append, stripCRLF_cons, if_neg, ih, List.cons_append]
    intro h
    simpa using congrArg List.length h.2

theorem stripCRLF_spec (l : List UInt8) : ∃ nl, l = stripCRLF l ++ term nl := by
  fun_induction stripCRLF l with
  | case1 => exact ⟨false, rfl⟩
  | case2 => exact ⟨true, rfl⟩
  | case3 c cs _ ih => exact ih.imp fun nl h => congrArg (c :: ·) h

def EndsCRLF (A : List UInt8) : Prop := ∃ p, A = p ++ [13, 10]

theorem not_endsCRLF_nil : ¬ EndsCRLF [] := by
  rintro ⟨p, hp⟩
  simpa using congrArg List.length hp

theorem not_endsCRLF_one (u : UInt8) : ¬ EndsCRLF [u] := by
  rintro ⟨p, hp⟩
  simpa using congrArg List.length hp

theorem not_endsCRLF_of_last_hex (A : List UInt8) (c : UInt8) (hc : isHex c = true) : ¬ EndsCRLF (A ++ [c]) := by
  rintro ⟨p, hp⟩
  have := congrArg List.getLast? hp
  rw [show p ++ [13, 10] = (p ++ [13]) ++ [10] by simp, List.getLast?_concat, List.getLast?_concat] at this
  exact isHex_ne hc not_isHex_10 (Option.some.inj this)

theorem stripCRLF_term {D : List UInt8} (hD : ¬ EndsCRLF D) (nl : Bool) :
    stripCRLF (D ++ term nl) = D := by
  cases nl with
  | true => simpa [term] using stripCRLF_append_two D 13 10
  | false =>
    obtain ⟨nl, h⟩ := stripCRLF_spec D
    cases nl with
    | false => simpa [term] using h.symm
    | true => exact absurd ⟨_, h⟩ hD

def bsum (l : List UInt8) : UInt8 := l.foldl (· + ·) 0

theorem bsum_cons (b : UInt8) (l : List UInt8) : bsum (b :: l) = b + bsum l := by
  simp only [bsum, List.foldl_cons, UInt8.zero_add]
  -- write `b` as `b + 0` so that `foldl_assoc` pulls it out of the fold
  rw [← UInt8.add_zero b, List.foldl_assoc, UInt8.add_zero]

theorem bsum_append (a b : List UInt8) : bsum (a ++ b) = bsum a + bsum b := by
  induction a with
  | nil => simp [bsum]
  | cons x a ih => rw [List.cons_append, bsum_cons, bsum_cons, ih, UInt8.add_assoc]

theorem lrc_fold (bs : List UInt8) (a s : UInt8) :
    bs.foldl (· - ·) a + bs.foldl (· + ·) s = a + s := by
  induction bs generalizing a s with
  | nil => rfl
  | cons b bs ih =>
    rw [List.foldl_cons, List.foldl_cons, ih, UInt8.add_comm s b, ← UInt8.add_assoc, UInt8.sub_add_cancel]

theorem lrc_sum_zero (bs : List UInt8) : (bs ++ [lrc bs]).foldl (· + ·) 0 = 0 := by
  rw [List.foldl_append, List.foldl_cons, List.foldl_nil, UInt8.add_comm]
  exact lrc_fold bs 0 0

end Flipdot
