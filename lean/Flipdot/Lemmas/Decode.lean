/-
The frame decoder model seen from outside: which strings have numeric fields (`numsOf_eq_some`) and which the
documented `Shape` (`shape_iff`); what `checkBytes`, and so `dec`, answers on the fields (`checkBytes_fields`,
`dec_of_nums`), and what acceptance means (`checkBytes_ok`, `accepted`).
-/
import Flipdot.Lemmas.Frame
namespace Flipdot

theorem hexPairs_of_hex (ds : List UInt8) (hh : ∀ c ∈ ds, isHex c = true) (he : ds.length % 2 = 0) :
    ∃ bs, hexPairs ds = some bs := by
  fun_induction hexPairs ds with
  | case1 => exact ⟨[], rfl⟩
  | case2 c => simp at he
  | case3 => exact ⟨_, rfl⟩
  | case4 a b rest hn ih =>
    -- `hexVal? a`, `hexVal? b` and `hexPairs rest` are all `some`, which this catch-all arm excludes (`hn`)
    have ha := hh a (by simp)
    have hb := hh b (by simp)
    obtain ⟨r, hr⟩ := ih (fun c hc => hh c (by simp [hc])) (by simp at he; omega)
    simp only [isHex, Option.isSome_iff_exists] at ha hb
    obtain ⟨x, hx⟩ := ha
    obtain ⟨y, hy⟩ := hb
    exact (hn x y r hx hy hr).elim

theorem hexPairs_none_of_odd (ds : List UInt8) (h : ds.length % 2 = 1) : hexPairs ds = none := by
  cases hp : hexPairs ds with
  | none => rfl
  | some bs => have := (hexPairs_some hp).1; omega

theorem hexPairs_none_of_nonhex (ds : List UInt8) (c : UInt8) (hc : c ∈ ds) (hn : isHex c = false) :
    hexPairs ds = none := by
  cases hp : hexPairs ds with
  | none => rfl
  | some bs => have := (hexPairs_some hp).2 c hc; simp [hn] at this

theorem hexPairs_append {A na : List UInt8} (ha : hexPairs A = some na) (B : List UInt8) :
    hexPairs (A ++ B) = (hexPairs B).map (na ++ ·) := by
  fun_induction hexPairs A generalizing na with
  | case1 => cases ha; simp
  | case2 c => cases ha
  | case3 a b rest x y r hr hvb hva ih =>
    cases ha
    simp only [List.cons_append, hexPairs, hva, hvb, ih hr]
    cases hexPairs B <;> simp
  | case4 => cases ha

theorem hexPairs_none_append (A B : List UInt8) (na : List UInt8) (ha : hexPairs A = some na)
    (hb : hexPairs B = none) : hexPairs (A ++ B) = none := by
  rw [hexPairs_append ha, hb]; rfl

/-- A string has numeric fields exactly when it is ':' + hex digits that read as them + an optional
    single CR LF. -/
theorem numsOf_eq_some {bs M : List UInt8} :
    numsOf bs = some M ↔ ∃ D nl, bs = 58 :: (D ++ term nl) ∧ hexPairs D = some M := by
  constructor
  · intro h
    unfold numsOf at h
    split at h
    · rename_i rest
      obtain ⟨nl, hnl⟩ := stripCRLF_spec rest
      exact ⟨_, nl, by rw [← hnl], h⟩
    · cases h
  · rintro ⟨D, nl, rfl, h⟩
    rw [numsOf_term (hexPairs_some h).2, h]

/-- The documented textual form: ':' + an even number (at least 10) of hex digits of either case +
    an optional single CR LF; nothing before, nothing after. -/
def Shape (bs : List UInt8) : Prop :=
  ∃ digits term, bs = 58 :: (digits ++ term) ∧ (term = [] ∨ term = [13, 10]) ∧
    (∀ c ∈ digits, isHex c = true) ∧ digits.length % 2 = 0 ∧ 10 ≤ digits.length

theorem term_cases (nl : Bool) : term nl = [] ∨ term nl = [13, 10] := by cases nl <;> simp [term]

theorem shape_iff (bs : List UInt8) : Shape bs ↔ ∃ nums, numsOf bs = some nums ∧ 5 ≤ nums.length := by
  constructor
  · rintro ⟨digits, t, rfl, ht, hh, he, hl⟩
    obtain ⟨nums, hn⟩ := hexPairs_of_hex digits hh he
    have hlen := (hexPairs_some hn).1
    refine ⟨nums, numsOf_eq_some.mpr ?_, by omega⟩
    rcases ht with rfl | rfl
    · exact ⟨digits, false, rfl, hn⟩
    · exact ⟨digits, true, rfl, hn⟩
  · rintro ⟨nums, hn, hl⟩
    obtain ⟨D, nl, rfl, hD⟩ := numsOf_eq_some.mp hn
    obtain ⟨hlen, hh⟩ := hexPairs_some hD
    exact ⟨D, term nl, rfl, term_cases nl, hh, by omega, by omega⟩

theorem nums_split (nums : List UInt8) (h : 5 ≤ nums.length) :
    ∃ len ah al ty data ck, nums = len :: ah :: al :: ty :: (data ++ [ck]) := by
  match nums, h with
  | len :: ah :: al :: ty :: x :: more, _ =>
    have hne : x :: more ≠ [] := by simp
    exact ⟨len, ah, al, ty, (x :: more).dropLast, (x :: more).getLast hne, by
      rw [List.dropLast_concat_getLast hne]⟩

theorem payload_of_fields (len ah al ty : UInt8) (data : List UInt8) (h : data.length = len.toNat) :
    payload ⟨ah.toUInt16 * 256 + al.toUInt16, ty, data⟩ = len :: ah :: al :: ty :: data := by
  rw [payload, (addrBytes_of_join ah al).1, (addrBytes_of_join ah al).2, h, UInt8.ofNat_toNat]
  rfl

/-- The declared length is tested against the actual number of data bytes first, then the checksum
    (`Data::try_new` cannot fail: the length field is one byte). -/
theorem checkBytes_fields (len ah al ty ck : UInt8) (data : List UInt8) :
    checkBytes (len :: ah :: al :: ty :: (data ++ [ck])) =
      if data.length ≠ len.toNat then .error (.mismatch len.toNat data.length)
      else if lrc (len :: ah :: al :: ty :: data) ≠ ck then
        .error (.badsum ck (lrc (len :: ah :: al :: ty :: data)))
      else .ok ⟨ah.toUInt16 * 256 + al.toUInt16, ty, data⟩ := by
  simp only [checkBytes, List.getLast?_concat, List.dropLast_concat]
  by_cases hl : data.length = len.toNat
  · have : ¬ len.toNat > 255 := by have := len.toNat_lt; omega
    simp [hl, Data.tryNew, this, payload_of_fields len ah al ty data hl]
  · simp [hl]

theorem checkBytes_short (nums : List UInt8) (h : nums.length < 5) : checkBytes nums = .error .invalid := by
  match nums, h with
  | [], _ => rfl
  | [_], _ => rfl
  | [_, _], _ => rfl
  | [_, _, _], _ => rfl
  | [_, _, _, _], _ => rfl

theorem dec_of_nums {bs : List UInt8} {len ah al ty ck : UInt8} {data : List UInt8}
    (hn : numsOf bs = some (len :: ah :: al :: ty :: (data ++ [ck]))) :
    dec bs =
      if data.length ≠ len.toNat then .error (.mismatch len.toNat data.length)
      else if lrc (len :: ah :: al :: ty :: data) ≠ ck then
        .error (.badsum ck (lrc (len :: ah :: al :: ty :: data)))
      else .ok ⟨ah.toUInt16 * 256 + al.toUInt16, ty, data⟩ := by
  rw [dec_eq, hn]
  exact checkBytes_fields ..

theorem checkBytes_ok {nums : List UInt8} {f : Frame} (h : checkBytes nums = .ok f) :
    nums = numsF f ∧ f.WF := by
  by_cases hl : nums.length < 5
  · rw [checkBytes_short nums hl] at h; cases h
  obtain ⟨len, ah, al, ty, data, ck, rfl⟩ := nums_split nums (Nat.le_of_not_lt hl)
  rw [checkBytes_fields] at h
  split at h
  · cases h
  rename_i hlen
  split at h
  · cases h
  rename_i hck
  cases h
  rw [Decidable.not_not] at hlen hck
  exact ⟨by rw [numsF, payload_of_fields _ _ _ _ _ hlen, hck]; rfl,
    by have := len.toNat_lt; simp only [Frame.WF]; omega⟩

/-- Whatever is accepted reads as the numeric fields of the frame it is decoded to. -/
theorem accepted (bs : List UInt8) (g : Frame) (h : dec bs = .ok g) :
    numsOf bs = some (numsF g) ∧ g.WF := by
  rw [dec_eq] at h
  cases hn : numsOf bs with
  | none => rw [hn] at h; cases h
  | some nums =>
    rw [hn] at h
    obtain ⟨rfl, hw⟩ := checkBytes_ok h
    exact ⟨rfl, hw⟩

theorem dec_ok_digits {bs : List UInt8} {g : Frame} (h : dec bs = .ok g) :
    ∃ D nl, bs = 58 :: (D ++ term nl) ∧ hexPairs D = some (numsF g) :=
  numsOf_eq_some.mp (accepted bs g h).1

end Flipdot
