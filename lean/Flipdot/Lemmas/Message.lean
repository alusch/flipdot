/-
Frames and messages.  The code tables (`State.code`, `Op.reqCode`, `Op.ackCode`) against the searches that invert
them; the two round trips between `toMsg` and `toFrame`; and that the round trips pin the decoder down
(`toMsg_unique`).
-/
import Flipdot.Model.Message
namespace Flipdot

theorem State.ofCode?_code (s : State) : State.ofCode? s.code = some s := by cases s <;> rfl
theorem Op.ofReqCode?_code (o : Op) : Op.ofReqCode? o.reqCode = some o := by cases o <;> rfl
theorem Op.ofAckCode?_code (o : Op) : Op.ofAckCode? o.ackCode = some o := by cases o <;> rfl

theorem State.code_of_ofCode? {b : UInt8} {s : State} (h : State.ofCode? b = some s) : s.code = b := by
  simpa using List.find?_some h
theorem Op.reqCode_of_ofReqCode? {b : UInt8} {o : Op} (h : Op.ofReqCode? b = some o) : o.reqCode = b := by
  simpa using List.find?_some h
theorem Op.ackCode_of_ofAckCode? {b : UInt8} {o : Op} (h : Op.ofAckCode? b = some o) : o.ackCode = b := by
  simpa using List.find?_some h

theorem inj_of_partial_inverse {α β : Type} {c : α → β} {d : β → Option α} (h : ∀ a, d (c a) = some a)
    {s t : α} (e : c s = c t) : s = t :=
  Option.some.inj (by rw [← h s, e, h t])

theorem State.code_inj {s t : State} (h : s.code = t.code) : s = t :=
  inj_of_partial_inverse State.ofCode?_code h
theorem Op.reqCode_inj {s t : Op} (h : s.reqCode = t.reqCode) : s = t :=
  inj_of_partial_inverse Op.ofReqCode?_code h
theorem Op.ackCode_inj {s t : Op} (h : s.ackCode = t.ackCode) : s = t :=
  inj_of_partial_inverse Op.ofAckCode?_code h

theorem toFrame_toMsg (f : Frame) : toFrame (toMsg f) = f := by
  obtain ⟨a, t, d⟩ := f
  fun_cases toMsg _ <;> simp_all [toFrame]
  · exact State.code_of_ofCode? ‹_›
  · exact Op.reqCode_of_ofReqCode? ‹_›
  · exact Op.ackCode_of_ofAckCode? ‹_›

theorem toMsg_toFrame (m : Msg) (h : m.Specific) : toMsg (toFrame m) = m := by
  cases m with
  | unknown f => exact h.elim
  | reportState a s => simp [toFrame, toMsg, State.ofCode?_code]
  | requestOp a o => simp [toFrame, toMsg, Op.ofReqCode?_code]
  | ackOp a o => simp [toFrame, toMsg, Op.ofAckCode?_code]
  | _ => simp [toFrame, toMsg]

/-- The two round trips pin the decoder down: any `D` that undoes `toFrame` on specific messages and is
    undone by it on every frame is `toMsg`. -/
theorem toMsg_unique (D : Frame → Msg) (hl : ∀ m, m.Specific → D (toFrame m) = m)
    (hr : ∀ f, toFrame (D f) = f) (f : Frame) : D f = toMsg f := by
  by_cases hs : (toMsg f).Specific
  · rw [← hl _ hs, toFrame_toMsg]
  · by_cases hd : (D f).Specific
    · rw [← toMsg_toFrame _ hd, hr]
    · -- neither is specific: both are `.unknown` of what `toFrame` makes of them, which is `f`
      have h1 := hr f
      have h2 := toFrame_toMsg f
      cases hm : toMsg f <;> simp [hm, Msg.Specific] at hs
      cases hD : D f <;> simp [hD, Msg.Specific] at hd
      rw [hD] at h1; rw [hm] at h2
      exact congrArg _ (h1.trans h2.symm)
end Flipdot
