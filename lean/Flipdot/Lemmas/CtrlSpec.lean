/-
Consequences of the protocol relations in Spec/CtrlProtocol.lean.  A transfer conversation is a sequence
of attempts (`TransferSpec.by_attempts`); its shape, the confirmation of success and the reason of each
retry are read off that.
-/
import Flipdot.Lemmas.CtrlConv
namespace Flipdot

variable {α : Type}

theorem Stop.not_ok {m : Msg} {w : Option Msg} {c : List Ex} {o : Outcome α} (h : Stop m w c o) :
    ∀ u, o ≠ .ok u := by
  cases h <;> simp

theorem MustFail.not_ok {reqs : List (Msg × Option Msg)} {c : List Ex} {o : Outcome α}
    (h : MustFail reqs c o) : ∀ u, o ≠ .ok u := by
  obtain ⟨_, _, _, _, _, _, hs, _⟩ := h
  exact hs.not_ok

theorem Stop.shape {m : Msg} {w : Option Msg} {c : List Ex} {o : Outcome α} (h : Stop m w c o) :
    ∃ x, c = [(m, x)] ∧ x ≠ some (.ok w) := by
  cases h with
  | starved => exact ⟨none, rfl, by simp⟩
  | bus => exact ⟨some .busError, rfl, by simp⟩
  | wrong r hr => exact ⟨some (.ok r), rfl, by simpa using hr⟩

/-- The messages of a conversation (`Prog.trace p s` is `msgsOf (p.run s).1`, by `rfl`). -/
def msgsOf (c : List Ex) : List Msg := c.map Prod.fst

@[simp] theorem msgsOf_append (c d : List Ex) : msgsOf (c ++ d) = msgsOf c ++ msgsOf d := by
  simp [msgsOf]

@[simp] theorem msgsOf_okConv (reqs : List (Msg × Option Msg)) : msgsOf (okConv reqs) = reqs.map Prod.fst := by
  simp [msgsOf, okConv, ans, Function.comp_def]

/-- The messages of one complete attempt, in order. -/
def attemptMsgs (a : UInt16) (msgs : List Msg) (op : Op) : List Msg :=
  .requestOp a op :: (msgs ++ [.chunksSent (UInt16.ofNat msgs.length), .queryState a])

theorem msgs_attemptReqs (a : UInt16) (msgs : List Msg) (op : Op) :
    (attemptReqs a msgs op).map Prod.fst ++ [.queryState a] = attemptMsgs a msgs op := by
  simp [attemptReqs, attemptMsgs, Function.comp_def]

/-- Induction over the attempts of a transfer conversation.  The last attempt (`single`) is some of
    the required exchanges answered as required, then one more exchange, its messages an initial
    segment of the attempt's; on success that last exchange is the own 'received' report.  Every
    earlier attempt (`again`) is complete and answered by the own 'failed' report. -/
theorem TransferSpec.by_attempts {a : UInt16} {msgs : List Msg} {op : Op} {succ failS : State}
    {motive : Nat → List Ex → Outcome Unit → Prop}
    (single : ∀ n pre e o, pre <+: attemptReqs a msgs op →
      msgsOf (okConv pre ++ [e]) <+: attemptMsgs a msgs op →
      (o = .ok () → e = ans (.queryState a) (some (.reportState a succ))) →
      motive n (okConv pre ++ [e]) o)
    (again : ∀ n c o, motive n c o → motive (n + 1)
      (okConv (attemptReqs a msgs op) ++ ans (.queryState a) (some (.reportState a failS)) :: c) o)
    {n : Nat} {c : List Ex} {o : Outcome Unit} (h : TransferSpec a msgs op succ failS n c o) :
    motive n c o := by
  have full : ∀ x : Option Reply, msgsOf (okConv (attemptReqs a msgs op) ++ [(.queryState a, x)]) <+:
      attemptMsgs a msgs op := fun x => by
    rw [← msgs_attemptReqs, msgsOf_append, msgsOf_okConv]; exact List.prefix_refl _
  induction h with
  | stopped n c o hm =>
    obtain ⟨pre, m, w, post, c', e, hs, rfl⟩ := hm
    obtain ⟨x, rfl, _⟩ := hs.shape
    refine single n pre (m, x) o ⟨_, e.symm⟩ ⟨post.map Prod.fst ++ [.queryState a], ?_⟩
      fun ho => absurd ho (hs.not_ok ())
    rw [← msgs_attemptReqs, e]; simp [msgsOf, okConv, ans, Function.comp_def]
  | queryStarved n | queryBus n | unexpected n =>
    exact single n _ _ _ (List.prefix_refl _) (full _) nofun
  | received n => exact single n _ _ _ (List.prefix_refl _) (full _) fun _ => rfl
  | retry n c o _ ih => exact again n c o ih

/-- A transfer reports success only if the state report concluding its final attempt came from the
    sign's own address and was the 'received' state. -/
theorem TransferSpec.success_confirmed {a : UInt16} {msgs : List Msg} {op : Op} {succ failS : State}
    {n : Nat} {c : List Ex} {o : Outcome Unit} (h : TransferSpec a msgs op succ failS n c o)
    (ho : o = .ok ()) :
    c.getLast? = some (ans (.queryState a) (some (.reportState a succ))) := by
  refine h.by_attempts (motive := fun _ c o' => o' = o → c.getLast? = _)
    (fun n pre e o' _ _ he ho' => by simp [he (ho' ▸ ho)]) (fun n c o' ih ho' => ?_) rfl
  rw [List.getLast?_append, List.getLast?_cons, ih ho']
  simp

/-- Shape of the message sequence of a transfer: at most `n` complete attempts, each exactly `E` (for a
    transfer `E = attemptMsgs`: request, chunks, count, query), followed by a prefix of one more. -/
inductive AttemptShape (E : List Msg) : Nat → List Msg → Prop where
  | last (n : Nat) (t : List Msg) : t <+: E → AttemptShape E n t
  | more (n : Nat) (t : List Msg) : AttemptShape E n t → AttemptShape E (n + 1) (E ++ t)

theorem TransferSpec.attempt_shape {a : UInt16} {msgs : List Msg} {op : Op} {succ failS : State}
    {n : Nat} {c : List Ex} {o : Outcome Unit} (h : TransferSpec a msgs op succ failS n c o) :
    AttemptShape (attemptMsgs a msgs op) n (msgsOf c) := by
  refine h.by_attempts (motive := fun n c _ => AttemptShape (attemptMsgs a msgs op) n (msgsOf c))
    (fun n pre e o _ hp _ => .last _ _ hp) (fun n c o ih => ?_)
  have := AttemptShape.more n _ ih
  rw [← msgs_attemptReqs] at this ⊢
  simpa [msgsOf, okConv, ans, Function.comp_def] using this

/-- A retry happens only after the sign's own 'failed' report: in every conversation, an attempt
    that is followed by another one ended with exactly that exchange. -/
inductive RetryShape (a : UInt16) (msgs : List Msg) (op : Op) (failS : State) : List Ex → Prop where
  | single (c : List Ex) :
      (∀ e ∈ c.tail, e.1 ≠ .requestOp a op) → RetryShape a msgs op failS c
  | again (c : List Ex) : RetryShape a msgs op failS c →
      RetryShape a msgs op failS
        (okConv (attemptReqs a msgs op) ++ ans (.queryState a) (some (.reportState a failS)) :: c)

theorem TransferSpec.retry_shape {a : UInt16} {msgs : List Msg} {op : Op} {succ failS : State}
    {n : Nat} {c : List Ex} {o : Outcome Unit} (h : TransferSpec a msgs op succ failS n c o)
    (hm : ∀ m ∈ msgs, m ≠ .requestOp a op) : RetryShape a msgs op failS c := by
  refine h.by_attempts (motive := fun _ c _ => RetryShape a msgs op failS c)
    (fun n pre e o _ ⟨t, ht⟩ _ => .single _ fun x hx => ?_) (fun n c o ih => .again c ih)
  -- after the first, the messages of an attempt are the chunks, the count and the query
  have : x.1 ∈ (attemptMsgs a msgs op).tail := by
    rw [← ht]
    cases hc : okConv pre ++ [e] with
    | nil => simp [hc] at hx
    | cons y c => rw [hc] at hx; exact List.mem_append_left _ (List.mem_map_of_mem hx)
  simp only [attemptMsgs, List.tail_cons, List.mem_append, List.mem_cons, List.not_mem_nil, or_false] at this
  rcases this with h | h | h
  · exact hm _ h
  · simp [h]
  · simp [h]

/-- What an attempt contains at most once (the receive request, in C11) occurs at most `n + 1` times. -/
theorem AttemptShape.count_le {E : List Msg} {n : Nat} {t : List Msg} (h : AttemptShape E n t)
    (p : Msg → Bool) (hE : (E.filter p).length ≤ 1) : (t.filter p).length ≤ n + 1 := by
  induction h with
  | last n t ht =>
    obtain ⟨s, hs⟩ := ht
    have : (t.filter p).length ≤ (E.filter p).length := by
      rw [← hs, List.filter_append, List.length_append]; omega
    omega
  | more n t _ ih =>
    rw [List.filter_append, List.length_append]
    omega

end Flipdot
