/-
The frame codec model through its numeric fields.  `numsF f` are the bytes a frame is written from, `numsOf bs`
the bytes a string reads as; `dec_eq` splits the decoder into `numsOf` and `checkBytes`; `checkBytes_numsF` is
the round trip on the fields; `wire f nl` is the one form of the two encodings, and `dec_wire` their round trip.
-/
import Flipdot.Lemmas.Bytes
namespace Flipdot

theorem addrBytes_toNat (a : UInt16) :
    (a >>> 8).toUInt8.toNat = a.toNat / 256 ∧ a.toUInt8.toNat = a.toNat % 256 := by
  have := a.toNat_lt
  simp [Nat.shiftRight_eq_div_pow]
  omega

theorem addrBytes_join (a : UInt16) : (a >>> 8).toUInt8.toUInt16 * 256 + a.toUInt8.toUInt16 = a := by
  apply UInt16.toNat_inj.mp
  have := a.toNat_lt
  rw [UInt16.toNat_add, UInt16.toNat_mul, UInt8.toNat_toUInt16, UInt8.toNat_toUInt16,
    (addrBytes_toNat a).1, (addrBytes_toNat a).2]
  simp
  omega

theorem addrBytes_of_join (ah al : UInt8) :
    ((ah.toUInt16 * 256 + al.toUInt16) >>> 8).toUInt8 = ah ∧ (ah.toUInt16 * 256 + al.toUInt16).toUInt8 = al := by
  have h1 := ah.toNat_lt
  have h2 := al.toNat_lt
  have hj : (ah.toUInt16 * 256 + al.toUInt16).toNat = ah.toNat * 256 + al.toNat := by simp; omega
  constructor <;> apply UInt8.toNat_inj.mp
  · rw [(addrBytes_toNat _).1]; omega
  · rw [(addrBytes_toNat _).2]; omega

theorem ofNat_len_toNat (n : Nat) (h : n ≤ 255) : (UInt8.ofNat n).toNat = n :=
  UInt8.toNat_ofNat_of_lt' (Nat.lt_succ_of_le h)

/-- The numeric fields of a frame's encoding. -/
def numsF (f : Frame) : List UInt8 := payload f ++ [lrc (payload f)]

theorem numsF_length (f : Frame) : (numsF f).length = f.data.length + 5 := by
  simp [numsF, payload]

theorem bsum_numsF (f : Frame) : bsum (numsF f) = 0 := lrc_sum_zero (payload f)

theorem checkBytes_numsF (f : Frame) (h : f.WF) : checkBytes (numsF f) = .ok f := by
  obtain ⟨a, t, d⟩ := f
  have h2 : ¬ d.length > 255 := Nat.not_lt.mpr h
  simp only [numsF, payload, List.cons_append, List.nil_append, checkBytes, List.getLast?_concat,
    List.dropLast_concat, ofNat_len_toNat _ h, ne_eq, not_true_eq_false, ↓reduceIte, Data.tryNew, h2,
    addrBytes_join]

theorem numsF_inj (f g : Frame) (hf : f.WF) (hg : g.WF) (h : numsF g = numsF f) : g = f := by
  have h1 := checkBytes_numsF g hg
  rw [h, checkBytes_numsF f hf] at h1
  exact (Except.ok.inj h1).symm

/-- The numeric fields of a string (everything the decoder looks at after the shape test). -/
def numsOf : List UInt8 → Option (List UInt8)
  | 58 :: rest => hexPairs (stripCRLF rest)
  | _ => none

theorem numsOf_head_ne (c : UInt8) (X : List UInt8) (h : c ≠ 58) : numsOf (c :: X) = none := by
  rw [numsOf]
  exact fun _ e => h (List.cons.inj e).1

theorem dec_eq (bs : List UInt8) :
    dec bs = match numsOf bs with
      | some nums => checkBytes nums
      | none => .error .invalid := by
  match bs with
  | [] => rfl
  | c :: rest =>
    by_cases hc : c = 58
    · subst hc; rfl
    · rw [numsOf_head_ne c rest hc, dec]
      exact fun _ e => hc (List.cons.inj e).1

theorem dec_ne_ok_of_numsOf_none {bs : List UInt8} (hn : numsOf bs = none) (g : Frame) : dec bs ≠ .ok g := by
  rw [dec_eq, hn]; nofun

theorem dec_ok_of_numsOf {bs : List UInt8} {f : Frame} (hn : numsOf bs = some (numsF f)) (hf : f.WF) :
    dec bs = .ok f := by
  rw [dec_eq, hn]
  exact checkBytes_numsF f hf

theorem numsOf_term {D : List UInt8} (hD : ∀ c ∈ D, isHex c = true) (nl : Bool) :
    numsOf (58 :: (D ++ term nl)) = hexPairs D := by
  rw [numsOf, stripCRLF_term fun ⟨p, e⟩ => absurd (hD 10 (by rw [e]; simp)) (by decide)]

/-- The two encodings of a frame in one form. -/
def wire (f : Frame) (nl : Bool) : List UInt8 := 58 :: (hexUpper (numsF f) ++ term nl)

theorem wire_false (f : Frame) : wire f false = enc f := by simp [wire, term, enc, numsF]
theorem wire_true (f : Frame) : wire f true = encNL f := by simp [wire, term, encNL, enc, numsF]

theorem numsOf_wire (f : Frame) (nl : Bool) : numsOf (wire f nl) = some (numsF f) := by
  rw [wire, numsOf_term (hexUpper_all_hex _), hexPairs_hexUpper]

theorem dec_wire (f : Frame) (hf : f.WF) (nl : Bool) : dec (wire f nl) = .ok f :=
  dec_ok_of_numsOf (numsOf_wire f nl) hf

end Flipdot
