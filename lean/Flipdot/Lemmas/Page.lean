/-
The page model: the bit masks (`testMask b i` is bit `i` of `b`, `setMask b i v` sets it; the rest is
`BitVec`'s bitwise lemmas), where a pixel lives, and what `get_pixel` / `set_pixel` / `set_all_pixels`
compute: as equations on a well-formed page, and on any page from the fact that the call returned.
-/
import Flipdot.Model.Page
namespace Flipdot

theorem bitMask_toBitVec (i : Nat) (hi : i < 8) : (bitMask i).toBitVec = BitVec.twoPow 8 i := by
  have : (UInt8.ofNat i).toBitVec % 8 = BitVec.ofNat 8 i := by
    apply BitVec.eq_of_toNat_eq; simp; omega
  simp only [bitMask, UInt8.toBitVec_shiftLeft, this, UInt8.toBitVec_one, BitVec.twoPow_eq]
  simp [Nat.mod_eq_of_lt (by omega : i < 256)]

theorem testMask_eq_getLsbD (b : UInt8) (i : Nat) (hi : i < 8) : testMask b i = b.toBitVec.getLsbD i := by
  have hne : BitVec.twoPow 8 i ≠ 0#8 := by
    intro h; have := congrArg (·.getLsbD i) h; simp [hi] at this
  rw [Bool.eq_iff_iff, testMask, beq_iff_eq, ← UInt8.toBitVec_inj, UInt8.toBitVec_and, bitMask_toBitVec i hi,
    BitVec.and_twoPow]
  cases b.toBitVec.getLsbD i <;> simp [hne.symm]

theorem setMask_getLsbD (b : UInt8) (i j : Nat) (hi : i < 8) (hj : j < 8) (v : Bool) :
    (setMask b i v).toBitVec.getLsbD j = if i = j then v else b.toBitVec.getLsbD j := by
  cases v <;>
    simp only [setMask, Bool.false_eq_true, ↓reduceIte, UInt8.toBitVec_and, UInt8.toBitVec_or, UInt8.toBitVec_not,
      bitMask_toBitVec i hi, BitVec.getLsbD_and, BitVec.getLsbD_or, BitVec.getLsbD_not, BitVec.getLsbD_twoPow, hi, hj] <;>
    by_cases h : i = j <;> simp [h]

theorem testMask_setMask (b : UInt8) (i j : Nat) (hi : i < 8) (hj : j < 8) (v : Bool) :
    testMask (setMask b i v) j = if i = j then v else testMask b j := by
  rw [testMask_eq_getLsbD _ j hj, testMask_eq_getLsbD _ j hj, setMask_getLsbD b i j hi hj]

theorem testMask_ff (i : Nat) (hi : i < 8) : testMask 0xFF i = true := by
  rw [testMask_eq_getLsbD _ i hi]; exact BitVec.getLsbD_allOnes.trans (decide_eq_true hi)

theorem testMask_00 (i : Nat) (hi : i < 8) : testMask 0x00 i = false := by
  rw [testMask_eq_getLsbD _ i hi]; exact BitVec.getLsbD_zero

theorem testMask_eq_shift (b : UInt8) (i : Nat) (hi : i < 8) :
    testMask b i = ((b >>> UInt8.ofNat i) &&& 1 == 1) := by
  have : ((UInt8.ofNat i).toBitVec % 8).toNat = i := by simp; omega
  rw [show (1 : UInt8) = bitMask 0 from rfl, ← testMask, testMask_eq_getLsbD _ 0 (by omega),
    testMask_eq_getLsbD _ i hi, UInt8.toBitVec_shiftRight, BitVec.ushiftRight_eq', this, BitVec.getLsbD_ushiftRight]
  rfl

theorem totalBytes_ge (w h : Nat) : dataBytes w h ≤ totalBytes w h := by
  unfold totalBytes; omega

theorem totalBytes_mod (w h : Nat) : totalBytes w h % 16 = 0 := by
  unfold totalBytes; omega

theorem totalBytes_pad (w h : Nat) : totalBytes w h - dataBytes w h < 16 := by
  unfold totalBytes; omega

theorem dataBytes_ge4 (w h : Nat) : 4 ≤ dataBytes w h := by unfold dataBytes; omega

theorem resize_ge (l : List UInt8) (n : Nat) (v : UInt8) (h : l.length ≤ n) :
    resize l n v = l ++ List.replicate (n - l.length) v := by
  unfold resize
  by_cases hn : n ≤ l.length
  · have e : n = l.length := by omega
    subst e
    simp
  · simp [hn]

theorem index_lt (w h x y : Nat) (hx : x < w) (hy : y < h) :
    4 + x * bpc h + y / 8 < dataBytes w h := by
  have h1 : y / 8 < bpc h := by unfold bpc; omega
  have h2 : (x + 1) * bpc h ≤ w * bpc h := Nat.mul_le_mul_right _ hx
  rw [Nat.succ_mul] at h2
  unfold dataBytes
  omega

/-- Distinct pixels of one column height never share a (byte, bit) position. -/
theorem index_inj (h x y x' y' : Nat) (hy : y < h) (hy' : y' < h)
    (hi : 4 + x * bpc h + y / 8 = 4 + x' * bpc h + y' / 8) (hb : y % 8 = y' % 8) :
    x = x' ∧ y = y' := by
  have h1 : y / 8 < bpc h := by unfold bpc; omega
  have h2 : y' / 8 < bpc h := by unfold bpc; omega
  -- division with remainder is unique: `x`, `y / 8` and `x'`, `y' / 8` are quotient and remainder of one number by `bpc h`
  have d := (Nat.div_mod_unique (by omega)).mpr
    ⟨show y / 8 + bpc h * x = x' * bpc h + y' / 8 by rw [Nat.mul_comm]; omega, h1⟩
  have d' := (Nat.div_mod_unique (by omega)).mpr
    ⟨show y' / 8 + bpc h * x' = x' * bpc h + y' / 8 by rw [Nat.mul_comm]; omega, h2⟩
  exact ⟨d.1.symm.trans d'.1, by have := d.2.symm.trans d'.2; omega⟩

theorem getElem?_mid {α : Type} (a c : List α) (n : Nat) (v : α) (i : Nat) (h1 : a.length ≤ i)
    (h2 : i < a.length + n) : (a ++ List.replicate n v ++ c)[i]? = some v := by
  rw [List.getElem?_append_left (by simp; omega), List.getElem?_append_right h1, List.getElem?_replicate,
    if_pos (by omega)]

/-- A `slice[a..b].fill(v)` that returned, byte by byte. -/
theorem fillRange_inv {l l' : List UInt8} {a b : Nat} {v : UInt8} (h : fillRange l a b v = .ok l') :
    l'.length = l.length ∧ ∀ i, l'[i]? = if a ≤ i ∧ i < b then some v else l[i]? := by
  unfold fillRange at h
  split at h
  · cases h
  · cases h
    refine ⟨by simp; omega, fun i => ?_⟩
    by_cases h1 : i < a
    · rw [if_neg (by omega), List.append_assoc, List.getElem?_append_left (by simp; omega), List.getElem?_take_of_lt h1]
    · by_cases h2 : i < b
      · rw [if_pos ⟨by omega, h2⟩, getElem?_mid _ _ _ _ _ (by simp; omega) (by simp; omega)]
      · rw [if_neg (by omega), List.getElem?_append_right (by simp; omega), List.getElem?_drop]
        congr 1; simp; omega

theorem Page.WF.data_le {p : Page} (hp : p.WF) : dataBytes p.w p.h ≤ p.bytes.length :=
  hp ▸ totalBytes_ge p.w p.h

theorem Page.WF.bytes_ne_nil {p : Page} (hp : p.WF) : p.bytes ≠ [] :=
  List.ne_nil_of_length_pos (by have := hp.data_le; have := dataBytes_ge4 p.w p.h; omega)

theorem Page.indices_inb (p : Page) (x y : Nat) (hx : x < p.w) (hy : y < p.h) :
    p.indices x y = .ok (4 + x * bpc p.h + y / 8, y % 8) :=
  if_neg (by omega)

theorem Page.indices_oob (p : Page) (x y : Nat) (h : x ≥ p.w ∨ y ≥ p.h) :
    p.indices x y = .error .oob :=
  if_pos h

theorem Page.idx_lt (p : Page) (hp : p.WF) (x y : Nat) (hx : x < p.w) (hy : y < p.h) :
    4 + x * bpc p.h + y / 8 < p.bytes.length :=
  Nat.lt_of_lt_of_le (index_lt p.w p.h x y hx hy) hp.data_le

/-- `get_pixel` in bounds reads bit `y % 8` of the pixel's byte; nothing else about the page matters. -/
theorem Page.get_of_byte {p : Page} {x y : Nat} {b : UInt8} (hx : x < p.w) (hy : y < p.h)
    (hb : p.bytes[4 + x * bpc p.h + y / 8]? = some b) : p.get x y = .ok (testMask b (y % 8)) := by
  simp only [Page.get, p.indices_inb x y hx hy, hb]

theorem Page.get_eq (p : Page) (hp : p.WF) {x y : Nat} (hx : x < p.w) (hy : y < p.h) :
    p.get x y = .ok (testMask (p.bytes[4 + x * bpc p.h + y / 8]'(p.idx_lt hp x y hx hy)) (y % 8)) :=
  Page.get_of_byte hx hy (List.getElem?_eq_getElem _)

theorem Page.set_eq (p : Page) (hp : p.WF) {x y : Nat} (hx : x < p.w) (hy : y < p.h) (v : Bool) :
    p.set x y v = .ok { p with
      bytes := p.bytes.set (4 + x * bpc p.h + y / 8)
        (setMask (p.bytes[4 + x * bpc p.h + y / 8]'(p.idx_lt hp x y hx hy)) (y % 8) v) } := by
  simp only [Page.set, p.indices_inb x y hx hy, List.getElem?_eq_getElem (p.idx_lt hp x y hx hy)]

/-- What a `set_pixel` that returned has done (no assumption on the page). -/
theorem Page.set_inv {p p' : Page} {x y : Nat} {v : Bool} (h : p.set x y v = .ok p') :
    x < p.w ∧ y < p.h ∧ ∃ b, p.bytes[4 + x * bpc p.h + y / 8]? = some b ∧
      p' = { p with bytes := p.bytes.set (4 + x * bpc p.h + y / 8) (setMask b (y % 8) v) } := by
  by_cases hb : x ≥ p.w ∨ y ≥ p.h
  · rw [Page.set, p.indices_oob x y hb] at h; cases h
  · rw [Page.set, p.indices_inb x y (by omega) (by omega)] at h
    cases hbyte : p.bytes[4 + x * bpc p.h + y / 8]? with
    | none => simp only [hbyte] at h; cases h
    | some b => simp only [hbyte] at h; cases h; exact ⟨by omega, by omega, b, rfl, rfl⟩

/-- The one equation of pixel update, for any page and any coordinates: after `set_pixel(x, y, v)` pixel `(x, y)`
    reads `v`, every other read does what it did before.  (Same byte and same bit means same pixel, `index_inj`;
    same byte and another bit, or another byte, is untouched; the bounds test sees the same dimensions.) -/
theorem Page.get_set {p p' : Page} {x y : Nat} {v : Bool} (h : p.set x y v = .ok p') (x' y' : Nat) :
    p'.get x' y' = if x' = x ∧ y' = y then .ok v else p.get x' y' := by
  obtain ⟨hx, hy, b, hb, rfl⟩ := Page.set_inv h
  obtain ⟨hlt, -⟩ := List.getElem?_eq_some_iff.mp hb
  have hq : ∀ bs, (Page.mk p.w p.h bs).indices x' y' = p.indices x' y' := fun _ => rfl
  rw [Page.get, Page.get, hq]
  by_cases hin : x' ≥ p.w ∨ y' ≥ p.h
  · rw [p.indices_oob x' y' hin, if_neg (by omega)]
  · rw [p.indices_inb x' y' (by omega) (by omega)]
    dsimp only
    by_cases hi : 4 + x * bpc p.h + y / 8 = 4 + x' * bpc p.h + y' / 8
    · rw [← hi, List.getElem?_set_self hlt, hb]
      dsimp only
      rw [testMask_setMask _ _ _ (by omega) (by omega)]
      by_cases hbit : y % 8 = y' % 8
      · obtain ⟨rfl, rfl⟩ := index_inj p.h x y x' y' hy (by omega) hi hbit
        simp
      · rw [if_neg hbit, if_neg (fun e => hbit (by rw [e.2]))]
    · rw [List.getElem?_set_ne hi, if_neg (fun e => hi (by rw [e.1, e.2]))]

theorem Page.setAll_eq (p : Page) (hp : p.WF) (v : Bool) :
    p.setAll v = .ok { p with
      bytes := p.bytes.take 4 ++ List.replicate (dataBytes p.w p.h - 4) (if v then 0xFF else 0x00) ++
                p.bytes.drop (dataBytes p.w p.h) } := by
  have h1 := hp.data_le
  have h2 := dataBytes_ge4 p.w p.h
  simp only [Page.setAll, fillRange, if_neg (show ¬ (4 > dataBytes p.w p.h ∨ dataBytes p.w p.h > p.bytes.length) by omega)]

theorem Page.setAll_inv {p p' : Page} {v : Bool} (h : p.setAll v = .ok p') :
    ∃ bs, p' = { p with bytes := bs } ∧ bs.length = p.bytes.length ∧
      ∀ i, bs[i]? = if 4 ≤ i ∧ i < dataBytes p.w p.h then some (if v then 0xFF else 0x00) else p.bytes[i]? := by
  unfold Page.setAll at h
  split at h
  · cases h
  next bs e => cases h; exact ⟨bs, rfl, fillRange_inv e⟩

end Flipdot
