/-
Controller programs run against virtual signs.  A bus whose other signs are idle (`Others`) acts as the
addressed sign alone (`runOn_focus`); against that one sign `configure` and the pixel transfer are followed
message by message (`ensure_blank`, `transfer_runOn1`).
-/
import Flipdot.Model.Compose
import Flipdot.Lemmas.VSign
import Flipdot.Lemmas.CtrlTree
import Flipdot.Props.C13
import Flipdot.Props.C14
import Flipdot.Lemmas.Assemble
namespace Flipdot
open C13

variable {α : Type}

/-- The other signs on the bus: different address, in a state some history can produce, and not in
    the middle of receiving a transfer. -/
def Others (a : UInt16) (l : List VSign) : Prop :=
  ∀ t ∈ l, t.addr ≠ a ∧ t.Inv ∧ t.state.receiving = false

theorem Others.nil (a : UInt16) : Others a [] := by simp [Others]

/-- A message the controller at `a` may send: addressed to `a`, or an unaddressed data message. -/
def CtrlMsg (a : UInt16) (m : Msg) : Prop := m.addr? = some a ∨ C14.isData m = true

theorem Sent.ctrlMsg {a : UInt16} {m : Msg} (h : Sent a m) : CtrlMsg a m := by
  cases h <;> first | exact .inl rfl | exact .inr rfl

theorem Ctrl.ctrlMsgs {a : UInt16} {p : Prog α} (h : Ctrl a p) : p.AllSends (CtrlMsg a) :=
  h.sends.mono fun _ => Sent.ctrlMsg

theorem Others.silent {a : UInt16} {l : List VSign} {m : Msg} (hl : Others a l) (hm : CtrlMsg a m) :
    ∀ t ∈ l, vstep t m = .ok (t, none) := fun t ht => by
  obtain ⟨hta, hti, htr⟩ := hl t ht
  rcases hm with hm | hm
  · exact C13.foreign_silent t m a hm (Ne.symm hta)
  · exact C14.data_nonreceiving_unchanged t m hm hti htr

theorem busStep_focus (a : UInt16) (pre post : List VSign) (s s' : VSign) (m : Msg) (r : Option Msg)
    (hpre : Others a pre) (hpost : Others a post) (hm : CtrlMsg a m)
    (hs : vstep s m = .ok (s', r)) :
    busStep (pre ++ s :: post) m = .ok (pre ++ s' :: post, r) := by
  refine (BusStep.skip (hpre.silent hm) ?_).eq
  cases r with
  | some x => exact .reply hs
  | none => simpa using BusStep.pass hs (.skip (hpost.silent hm) .nil)

theorem ownOrNone_ctrlMsg_of_data {a : UInt16} {m : Msg} (h : OwnOrNone a m)
    (hd : m.addr? = none → C14.isData m = true) : CtrlMsg a m := by
  rcases h with h | h
  · exact .inr (hd h)
  · exact .inl h

/-- Running on the whole bus = running on the addressed sign, for any program that only sends
    controller messages. -/
theorem runOn_focus (a : UInt16) (pre post : List VSign) (p : Prog α) (s : VSign)
    (hpre : Others a pre) (hpost : Others a post) (hp : p.AllSends (CtrlMsg a)) :
    p.runOn (pre ++ s :: post) = ((p.runOn1 s).1, pre ++ (p.runOn1 s).2 :: post) := by
  induction hp generalizing s with
  | send m k hm _ ih =>
    obtain ⟨⟨s', r⟩, hv⟩ := C12.vstep_no_panic s m
    simp only [Prog.runOn, Prog.runOn1, hv, busStep_focus a pre post s s' m r hpre hpost hm hv]
    exact ih r s'
  | _ => rfl

theorem runOn1_send {m : Msg} {k : Option Msg → Prog α} {s s' : VSign} {r : Option Msg}
    (h : vstep s m = .ok (s', r)) : (Prog.send m k).runOn1 s = (k r).runOn1 s' := by
  simp [Prog.runOn1, h]

theorem runOn1_expect {m : Msg} {w : Option Msg} {k : Prog α} {s s' : VSign} {r : Option Msg}
    (h : vstep s m = .ok (s', r)) :
    (expect m w k).runOn1 s = if r = w then k.runOn1 s' else (.proto, s') := by
  unfold expect
  rw [runOn1_send h]
  split <;> rfl

theorem runOn1_bind {β : Type} {p : Prog α} {f : α → Prog β} {s s' : VSign} {x : α}
    (h : p.runOn1 s = (.ok x, s')) : (p.bind f).runOn1 s = (f x).runOn1 s' := by
  induction p generalizing s with
  | done y => cases h; rfl
  | send m k ih =>
    simp only [Prog.bind, Prog.runOn1] at h ⊢
    cases hv : vstep s m with
    | error e => simp [hv] at h
    | ok sr => simp only [hv] at h ⊢; exact ih _ h
  | _ => cases h

/-- An unconfigured sign that satisfies the invariant is exactly a freshly created one. -/
theorem unconfigured_is_new (s : VSign) (hi : s.Inv) (hs : s.state = .unconfigured) :
    s = VSign.new s.addr s.style := by
  obtain ⟨hw, hh, ht⟩ := hi.blank hs
  obtain ⟨hc, hp⟩ := hi.idle (by rw [hs]; rfl)
  have hpg := hi.noPages (by rw [hs]; rfl)
  cases s
  simp_all [VSign.new]

theorem finishReset_blank (t : VSign) (ht : t.state = .readyToReset) (k : Prog α) :
    (finishResetSeq t.addr k).runOn1 t = k.runOn1 (VSign.new t.addr t.style) := by
  unfold finishResetSeq
  have h2 : vstep (VSign.new t.addr t.style) (.hello t.addr) =
      .ok (VSign.new t.addr t.style, some (.reportState t.addr .unconfigured)) := query_spec _ _ (.inl rfl)
  rw [runOn1_expect (reset_blank t ht), if_pos rfl, runOn1_expect h2, if_pos rfl]

/-- `ensure_unconfigured` against a virtual sign in any state some history can produce: always
    succeeds and leaves the sign blank. -/
theorem ensure_blank (s : VSign) (hi : s.Inv) (k : Prog α) :
    (ensureUnconfigured s.addr k).runOn1 s = k.runOn1 (VSign.new s.addr s.style) := by
  unfold ensureUnconfigured
  rw [runOn1_send (query_spec s _ (.inl rfl))]
  by_cases hu : s.state = .unconfigured
  · -- nothing to do, and `s`, which the report has left as it was, is blank
    rw [if_pos (by rw [hu]), ← unconfigured_is_new s hi hu]
    cases s; simp_all [afterReport]
  rw [if_neg (by simpa using hu)]
  by_cases hr : s.state = .readyToReset
  · -- ready to reset: finish it
    rw [if_pos (by rw [hr])]
    exact finishReset_blank { s with state := afterReport s.state } (by simp [hr, afterReport]) k
  rw [if_neg (by simpa using hr)]
  -- any other state: start the reset first
  obtain ⟨t, h1, hst, ha, hsty⟩ := request_legal { s with state := afterReport s.state } .startReset rfl
  rw [runOn1_expect h1, if_pos rfl]
  have h2 := query_spec t (.hello s.addr) (.inl (by rw [ha]))
  rw [runOn1_expect h2, if_pos (by rw [ha, hst]; rfl)]
  have := finishReset_blank { t with state := afterReport t.state } (by simp [hst, target, afterReport]) k
  simpa only [ha, hsty] using this

/-- The virtual sign right after a successful configuration as type `t`. -/
def VSign.configured (a : UInt16) (st : FlipStyle) (t : SignType) : VSign :=
  ⟨a, st, .configReceived, [], [], 0, t.dims.1, t.dims.2, some t⟩

theorem VSign.inv_configured (a : UInt16) (st : FlipStyle) (t : SignType) : (VSign.configured a st t).Inv := by
  constructor <;> simp [VSign.configured]

theorem runOn1_sendChunks {pairs : List (UInt16 × List UInt8)} {s s' : VSign} (h : sendAll s pairs = .ok s')
    (n : Nat) (k : Nat → Prog α) (hn : n + pairs.length < 65536) :
    (sendChunks (pairs.map mkData) n k).runOn1 s = (k (n + pairs.length)).runOn1 s' := by
  induction pairs generalizing s n with
  | nil => cases h; rfl
  | cons c cs ih =>
    obtain ⟨off, d⟩ := c
    rw [List.length_cons] at hn
    simp only [sendAll] at h
    split at h
    · cases h
    · rename_i t ht
      rw [List.map_cons, sendChunks, runOn1_send (m := mkData (off, d)) (vstep_data ht), if_pos rfl,
        if_neg (by omega), ih h (n + 1) (by omega), List.length_cons, Nat.add_assoc, Nat.add_comm 1]

/-- One attempt of `transfer` that the sign accepts: the request acknowledged, every chunk and the count
    met with silence, the final query answered with the success state.  Whatever the number of retries
    left, the first attempt is then the last. -/
theorem transfer_runOn1 (a : UInt16) (pairs : List (UInt16 × List UInt8)) (op : Op) (succ failS : State) (n : Nat)
    {s s₁ s₂ s₃ s₄ : VSign} (hne : succ ≠ failS) (hlen : pairs.length < 65536)
    (h1 : vstep s (.requestOp a op) = .ok (s₁, some (.ackOp a op)))
    (h2 : sendAll s₁ pairs = .ok s₂)
    (h3 : vstep s₂ (.chunksSent (UInt16.ofNat pairs.length)) = .ok (s₃, none))
    (h4 : vstep s₃ (.queryState a) = .ok (s₄, some (.reportState a succ))) :
    (transfer a (pairs.map mkData) op succ failS n).runOn1 s = (.ok (), s₄) := by
  have hne' : ¬ (some (Msg.reportState a succ) = some (.reportState a failS)) := by simpa using hne
  cases n <;>
    rw [transfer, runOn1_expect h1, if_pos rfl, runOn1_sendChunks h2 0 _ (by omega),
      Nat.zero_add, runOn1_expect h3, if_pos rfl, runOn1_send h4]
  · rw [if_pos rfl]; rfl
  · rw [if_neg hne', if_pos rfl]; rfl

/-- The configuration block of a supported type, at offset 0, to a sign receiving its configuration: the sign
    takes the type and its size, and counts the chunk. -/
theorem VSign.sendData_typeBlock (s : VSign) (t : SignType) (hs : s.state = .configInProgress) :
    s.sendData 0 t.toBytes =
      .ok { s with signType := some t, w := t.dims.1, h := t.dims.2, chunks := satSucc s.chunks } := by
  simp only [VSign.sendData, hs, C19.toBytes_len16, C19.vsign_dims_agree, C19.fromBytes_toBytes, and_self,
    ↓reduceIte]

theorem transfer_config_blank (a : UInt16) (st : FlipStyle) (t : SignType) (n : Nat) :
    (transfer a (allChunkMsgs [t.toBytes]) .receiveConfig .configReceived .configFailed n).runOn1
      (VSign.new a st) = (.ok (), VSign.configured a st t) := by
  rw [allChunkMsgs_typeBlock]
  have h2 : sendAll ((VSign.new a st).accept .receiveConfig) [(0, t.toBytes)] =
      .ok ⟨a, st, .configInProgress, [], [], 1, t.dims.1, t.dims.2, some t⟩ := by
    rw [sendAll, VSign.sendData_typeBlock _ t rfl]; rfl
  -- a blank sign accepts the request; the block is its one chunk; the count of 1 matches and finds nothing
  -- buffered to close (by evaluation); the query reports the success state
  exact transfer_runOn1 a [(0, t.toBytes)] _ _ _ n (by decide) (by simp) (vstep_request_legal rfl) h2
    (s₃ := VSign.configured a st t) rfl (query_spec _ _ (.inr rfl))

/-- `configure` against a virtual sign in any state some history can produce: succeeds and leaves
    it configured as the requested type, with no pages. -/
theorem configure_runOn1 (s : VSign) (hi : s.Inv) (t : SignType) :
    (configure s.addr t).runOn1 s = (.ok (), VSign.configured s.addr s.style t) := by
  unfold configure
  rw [ensure_blank s hi, transfer_config_blank]

/-- The sign after a successful pixel transfer of `ps`, before pixels-complete. -/
def VSign.loaded (s : VSign) (ps : List Page) (st : State) : VSign :=
  { s with state := st, pages := ps, pending := [], chunks := 0 }

/-- The pixel transfer against a configured, idle virtual sign: succeeds at the first attempt and
    the sign then holds exactly the pages sent. -/
theorem transfer_pixels (s : VSign) (hi : s.Inv) (hst : VSign.canReceivePixels s.state = true)
    (hw : 0 < s.w) (hh : 0 < s.h) (hsz : totalBytes s.w s.h ≤ 65536)
    (ps : List Page) (hps : ∀ p ∈ ps, p.w = s.w ∧ p.h = s.h ∧ p.WF)
    (hn : (allChunkMsgs (ps.map (·.bytes))).length < 65536) (n : Nat) :
    (transfer s.addr (allChunkMsgs (ps.map (·.bytes))) .receivePixels .pixelsReceived .pixelsFailed n).runOn1 s =
      (.ok (), s.loaded ps .pixelsReceived) := by
  have hnr : s.state.receiving = false := by revert hst; cases s.state <;> decide
  obtain ⟨hc0, hp0⟩ := hi.idle hnr
  rw [allChunkMsgs_pairs] at hn ⊢
  rw [List.length_map] at hn
  have hasm := (assemble_pages s.w s.h hw hh hsz ps hps []).1
  generalize allChunkPairs (ps.map (·.bytes)) = pairs at hn hasm ⊢
  -- the request is acknowledged, every chunk swallowed
  have h1 := vstep_request_legal (s := s) (op := .receivePixels) (by rwa [← canReceivePixels_eq])
  obtain ⟨P, Q, c, hall, hclose, hc⟩ := sendAll_pixels (s.accept .receivePixels) pairs rfl
  -- the count matches, and closing the buffer stores the pages sent
  have hcnt : (c == (UInt16.ofNat pairs.length).toNat) = true := by
    have h0 : (s.accept .receivePixels).chunks = 0 := hc0
    rw [UInt16.toNat_ofNat_of_lt' hn, beq_iff_eq]
    omega
  have hpg : closeGroup s.w s.h P Q = ps :=
    hclose.trans (by show assemble s.w s.h [] s.pending pairs = ps; rw [hp0]; exact hasm)
  refine transfer_runOn1 _ _ _ _ _ n (by decide) hn h1 hall
    (s₃ := s.loaded ps .pixelsReceived) ?_ (query_spec _ _ (.inr rfl))
  simp only [vstep, VSign.chunksSent_eq, VSign.accept, VSign.loaded, hcnt, hpg, State.afterCount, ↓reduceIte]

end Flipdot
