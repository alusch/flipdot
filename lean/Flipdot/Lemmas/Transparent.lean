/-
C17, last step: for the controller operations the serial path and the direct path agree on success and on
the final virtual signs (`C17.Transparent`), with no side condition.  Props/C17.lean has brought the serial
path down to `C17.runStrict`: the direct run, except that a message due a reply that gets none is a bus error
and ends the run (`C17.runVia_eq_runStrict`, for programs whose messages are `C17.Canonical`, that is, come
back from the wire as they went).  So the two paths part only at such a message: a bus error there, a
protocol error directly.  With the addressed sign on the bus that happens at an operation request only, and a
request not acknowledged is the end of the operation either way (`present_runs`); with nobody at the address
the signs never change and the first message is already unanswered (`absent_runs`).
-/
import Flipdot.Props.C17
namespace Flipdot
open C17

variable {α : Type}

theorem present_answered (bus bus' : List VSign) (a : UInt16) (m : Msg) (r : Option Msg)
    (hm : m = .hello a ∨ m = .queryState a) (hp : a ∈ bus.map (·.addr))
    (h : busStep bus m = .ok (bus', r)) : r ≠ none := by
  replace h := busStep_rel h
  induction h with
  | nil => simp at hp
  | reply => simp
  | @pass s _ _ _ _ hs _ ih =>
    rcases List.mem_cons.mp hp with rfl | hp
    · -- the head sign has the address: it would have answered
      rw [C13.query_spec s m hm] at hs; cases hs
    · exact ih hp

/-- What the serial path needs to know about an operation of the controller at address `a`. -/
structure CtrlOp (a : UInt16) (p : Prog α) : Prop where
  canonical : p.AllSends Canonical
  strict : p.Strict a
  expecting : p.AllSends (fun m => responseExpected m = true →
    m = .hello a ∨ m = .queryState a ∨ ∃ o, m = .requestOp a o)

/-- With the addressed sign present, the strict and the plain direct runs differ at most by
    "bus error" versus "protocol error" at the same point, with the same virtual signs. -/
theorem present_runs (a : UInt16) (p : Prog α) (hop : CtrlOp a p) (bus : List VSign)
    (hp : a ∈ bus.map (·.addr)) :
    runStrict p bus = p.runOn bus ∨
      ((runStrict p bus).1 = .bus ∧ (p.runOn bus).1 = .proto ∧ (runStrict p bus).2 = (p.runOn bus).2) := by
  obtain ⟨-, hc, he⟩ := hop
  induction hc generalizing bus with
  | send m k hk _ ih =>
    cases he with
    | send _ _ hm hrest =>
      obtain ⟨⟨bus', r⟩, hb⟩ := C12.busStep_no_panic bus m
      simp only [runStrict, Prog.runOn, directStrict, hb]
      by_cases hc' : responseExpected m = true ∧ r = none
      · obtain ⟨hexp, rfl⟩ := hc'
        simp only [hexp, and_self, ↓reduceIte]
        rcases hm hexp with rfl | rfl | ⟨o, rfl⟩
        · exact absurd rfl (present_answered bus bus' a _ none (.inl rfl) hp hb)
        · exact absurd rfl (present_answered bus bus' a _ none (.inr rfl) hp hb)
        -- a request met with silence: strictness makes the continuation `.fail`
        · rw [hk (some (.ackOp a o)) rfl none (by simp)]
          exact .inr ⟨trivial, rfl, rfl⟩
      · simp only [hc', ↓reduceIte]
        exact ih r bus' (by rw [(busStep_rel hb).addrs]; exact hp) (hrest r)
  | _ => exact .inl rfl

/-- As long as nobody answers, the program sends only messages to `a` that are due a reply, and then fails. -/
inductive Prog.QuietFail (a : UInt16) : Prog α → Prop where
  | fail : QuietFail a .fail
  | send (m : Msg) (k : Option Msg → Prog α) : m.addr? = some a → responseExpected m = true →
      QuietFail a (k none) → QuietFail a (.send m k)

theorem Prog.QuietFail.bind {β : Type} {a : UInt16} {p : Prog α} (h : p.QuietFail a) (f : α → Prog β) :
    (p.bind f).QuietFail a := by
  induction h with
  | fail => exact .fail
  | send m k hm he _ ih => exact .send m _ hm he ih

theorem quietFail_expect (a : UInt16) (m : Msg) (w : Option Msg) (k : Prog α)
    (hm : m.addr? = some a) (he : responseExpected m = true) (hw : w ≠ none) : (expect m w k).QuietFail a := by
  refine .send m _ hm he ?_
  rw [if_neg fun h : none = w => hw h.symm]
  exact .fail

/-- With nobody at the address, such a program fails on either path, by a bus error over the wire and by a
    protocol error directly (by a protocol error on both if it sends nothing), the virtual signs untouched. -/
theorem absent_runs (a : UInt16) (p : Prog α) (hq : p.QuietFail a) (bus : List VSign)
    (habs : ∀ s ∈ bus, s.addr ≠ a) :
    p.runOn bus = (.proto, bus) ∧ (runStrict p bus = (.bus, bus) ∨ runStrict p bus = (.proto, bus)) := by
  constructor
  · induction hq with
    | fail => rfl
    | send m k hm _ _ ih => simp only [Prog.runOn, C14.absent_noop bus m a hm habs]; exact ih
  · cases hq with
    | fail => exact .inr rfl
    | send m k hm he _ => exact .inl (by simp [runStrict, directStrict, C14.absent_noop bus m a hm habs, he])

/-- Transparency for a controller operation that fails quietly when nobody answers (all but shut-down do), on
    every virtual bus: same success (and same returned value), same virtual signs, nothing left in the pipe. -/
theorem op_transparent (a : UInt16) (p : Prog α) (hop : CtrlOp a p) (hq : p.QuietFail a) (bus : List VSign) :
    Transparent p bus := by
  unfold Transparent
  rw [runVia_eq_runStrict p hop.canonical bus]
  simp only [and_true]
  by_cases hp : a ∈ bus.map (·.addr)
  · rcases present_runs a p hop bus hp with e | ⟨e1, e2, e3⟩
    · rw [e]; exact ⟨fun _ => Iff.rfl, rfl⟩
    · refine ⟨fun x => ?_, e3⟩
      rw [e1, e2]; simp
  · have habs : ∀ s ∈ bus, s.addr ≠ a := fun s hs h => hp (List.mem_map.mpr ⟨s, hs, h⟩)
    obtain ⟨h2, h1 | h1⟩ := absent_runs a p hq bus habs <;> rw [h1, h2] <;> exact ⟨fun x => by simp, rfl⟩

/-- Of what a controller sends, only hello, query and operation requests are due a reply. -/
theorem Sent.expecting {a : UInt16} {m : Msg} (h : Sent a m) (he : responseExpected m = true) :
    m = .hello a ∨ m = .queryState a ∨ ∃ o, m = .requestOp a o := by
  cases h <;> first | exact .inl rfl | exact .inr (.inl rfl) | exact .inr (.inr ⟨_, rfl⟩) | cases he

theorem Ctrl.ctrlOp {a : UInt16} {p : Prog α} (h : Ctrl a p) : CtrlOp a p :=
  ⟨canonical_of_ctrl h, h.strict, h.sends.mono fun _ => Sent.expecting⟩

theorem configure_quiet (a : UInt16) (t : SignType) : (configure a t).QuietFail a := by
  refine .send _ _ rfl rfl ?_
  exact quietFail_expect a _ _ _ rfl rfl (by simp)

theorem configureIfNeeded_quiet (a : UInt16) (t : SignType) : (configureIfNeeded a t).QuietFail a :=
  .send _ _ rfl rfl (configure_quiet a t)

theorem transfer_quiet (a : UInt16) (msgs : List Msg) (op : Op) (succ failS : State) (n : Nat) :
    (transfer a msgs op succ failS n).QuietFail a := by
  cases n <;> exact quietFail_expect a _ _ _ rfl rfl (by simp)

theorem sendPages_quiet (a : UInt16) (pages : List (List UInt8)) : (sendPages a pages).QuietFail a :=
  (transfer_quiet a _ _ _ _ 2).bind _

theorem switchPage_quiet (a : UInt16) (target trigger : State) (op : Op) (fuel : Nat) :
    (switchPage a target trigger op (fuel + 1)).QuietFail a :=
  .send _ _ rfl rfl .fail

theorem answered_of_silent (p : Prog α) (hs : p.AllSends (fun m => responseExpected m = false))
    (bus : List VSign) : Answered p bus := by
  induction hs generalizing bus with
  | send m k hm _ ih =>
    simp only [Answered]
    cases hb : busStep bus m with
    | error e => trivial
    | ok br =>
      obtain ⟨b', r⟩ := br
      exact ⟨fun h => (by rw [hm] at h; cases h), ih r b'⟩
  | _ => trivial

/-- Programs that never ask for a reply (shut-down) are the same over the wire and directly. -/
theorem silent_transparent (p : Prog α) (hc : p.AllSends Canonical)
    (hs : p.AllSends (fun m => responseExpected m = false)) (bus : List VSign) : Transparent p bus :=
  .of_eq (transparent_partial p hc bus (answered_of_silent p hs bus))

end Flipdot
