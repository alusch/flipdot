/-
Chunk assembly on the sign side.  `C13.sendAll` (Props/C13.lean) delivers a run of data chunks to a sign, and
`C13.assemble` computes from the chunk log alone which pages such a run stores (`C13.pages_assembled`).  Here:
on the chunk stream the controller makes of well-formed pages, `assemble` gives back exactly those pages
(`assemble_chunks_of_pages`).  The stream is taken as (offset, data) pairs (`allChunkPairs`); the controller's
messages are their image under `mkData` (`allChunkMsgs_pairs`).
-/
import Flipdot.Props.C13
import Flipdot.Lemmas.Chunks
import Flipdot.Lemmas.Page
namespace Flipdot
open C13

def chunkPairsFrom : Nat → List (List UInt8) → List (UInt16 × List UInt8)
  | _, [] => []
  | i, c :: cs => (UInt16.ofNat (i * 16), c) :: chunkPairsFrom (i + 1) cs

def itemPairs (item : List UInt8) : List (UInt16 × List UInt8) := chunkPairsFrom 0 (chunks16 item)

def allChunkPairs : List (List UInt8) → List (UInt16 × List UInt8)
  | [] => []
  | it :: its => itemPairs it ++ allChunkPairs its

def mkData (p : UInt16 × List UInt8) : Msg := .sendData p.1 p.2

theorem chunkMsgsFrom_pairs (i : Nat) (cs : List (List UInt8)) :
    chunkMsgsFrom i cs = (chunkPairsFrom i cs).map mkData := by
  induction cs generalizing i with
  | nil => rfl
  | cons c cs ih => simp [chunkMsgsFrom, chunkPairsFrom, mkData, ih]

theorem allChunkMsgs_pairs (items : List (List UInt8)) :
    allChunkMsgs items = (allChunkPairs items).map mkData := by
  induction items with
  | nil => rfl
  | cons it its ih => simp [allChunkMsgs, allChunkPairs, itemMsgs, itemPairs, chunkMsgsFrom_pairs, ih]

theorem ofNat16_ne_zero (n : Nat) (h0 : 0 < n) (h1 : n < 65536) : (UInt16.ofNat n) ≠ 0 := fun h =>
  Nat.ne_of_gt h0 ((UInt16.toNat_ofNat_of_lt' h1).symm.trans (congrArg UInt16.toNat h))

/-- Chunks after the first of an item (nonzero offsets) just extend the buffered data. -/
theorem assemble_tail_chunks (w h : Nat) (pages : List Page) (cur : List UInt8) (i : Nat)
    (cs : List (List UInt8)) (rest : List (UInt16 × List UInt8))
    (hi : 0 < i) (hb : (i + cs.length) * 16 ≤ 65536 + 15) :
    assemble w h pages cur (chunkPairsFrom i cs ++ rest) = assemble w h pages (cur ++ cs.flatten) rest := by
  induction cs generalizing i cur with
  | nil => simp [chunkPairsFrom]
  | cons c cs ih =>
    simp only [chunkPairsFrom, List.cons_append, assemble]
    have hne : UInt16.ofNat (i * 16) ≠ 0 := ofNat16_ne_zero _ (by omega) (by simp at hb; omega)
    simp only [hne, ↓reduceIte]
    rw [ih (cur ++ c) (i + 1) (by omega) (by simp at hb ⊢; omega)]
    simp

/-- All chunks of one (non-empty, at most 64 KiB) item: the buffered group is closed, then the
    item's bytes are buffered. -/
theorem assemble_item (w h : Nat) (pages : List Page) (cur item : List UInt8)
    (rest : List (UInt16 × List UInt8)) (hne : item ≠ []) (hlen : item.length ≤ 65536) :
    assemble w h pages cur (itemPairs item ++ rest) =
      assemble w h (closeGroup w h pages cur) item rest := by
  obtain ⟨c, cs, hc⟩ : ∃ c cs, chunks16 item = c :: cs := ⟨_, _, chunks16_of_ne_nil hne⟩
  have hfl := chunks16_flatten item
  have hl := chunks16_count item
  unfold itemPairs
  rw [hc] at hfl hl ⊢
  simp only [chunkPairsFrom, List.cons_append, assemble]
  have h0 : (UInt16.ofNat 0) = 0 := rfl
  simp only [h0, ↓reduceIte]
  rw [assemble_tail_chunks w h _ c 1 cs rest (by omega) (by simp at hl; omega)]
  simp only [List.flatten_cons] at hfl
  rw [hfl]

theorem closeGroup_page (w h : Nat) (acc : List Page) (q : Page) (hw : 0 < w) (hh : 0 < h)
    (hq : q.w = w ∧ q.h = h ∧ q.WF) : closeGroup w h acc q.bytes = acc ++ [q] := by
  obtain ⟨rfl, rfl, qwf⟩ := hq
  unfold closeGroup
  rw [if_neg qwf.bytes_ne_nil, if_pos ⟨hw, hh, qwf⟩]

/-- The chunk stream of well-formed pages of the configured size, whatever is buffered when it
    starts: the buffered group is closed and then exactly those pages are stored, in order. -/
theorem assemble_chunks_of_pages (w h : Nat) (hw : 0 < w) (hh : 0 < h) (hsz : totalBytes w h ≤ 65536)
    (ps : List Page) (hps : ∀ p ∈ ps, p.w = w ∧ p.h = h ∧ p.WF) (acc : List Page) (cur : List UInt8) :
    assemble w h acc cur (allChunkPairs (ps.map (·.bytes))) = closeGroup w h acc cur ++ ps := by
  induction ps generalizing acc cur with
  | nil => simp [allChunkPairs, assemble]
  | cons p ps ih =>
    have hp := hps p (by simp)
    have plen : p.bytes.length ≤ 65536 := by rw [show p.bytes.length = _ from hp.2.2, hp.1, hp.2.1]; exact hsz
    simp only [List.map_cons, allChunkPairs]
    rw [assemble_item w h acc cur p.bytes _ hp.2.2.bytes_ne_nil plen, ih (fun x hx => hps x (by simp [hx])),
      closeGroup_page w h _ p hw hh hp, List.append_assoc, List.singleton_append]

theorem assemble_pages (w h : Nat) (hw : 0 < w) (hh : 0 < h) (hsz : totalBytes w h ≤ 65536)
    (ps : List Page) (hps : ∀ p ∈ ps, p.w = w ∧ p.h = h ∧ p.WF) (acc : List Page) :
    assemble w h acc [] (allChunkPairs (ps.map (·.bytes))) = acc ++ ps ∧
    ∀ q : Page, (q.w = w ∧ q.h = h ∧ q.WF) →
      assemble w h acc q.bytes (allChunkPairs (ps.map (·.bytes))) = acc ++ [q] ++ ps := by
  refine ⟨?_, fun q hq => ?_⟩
  · rw [assemble_chunks_of_pages w h hw hh hsz ps hps, closeGroup_nil]
  · rw [assemble_chunks_of_pages w h hw hh hsz ps hps, closeGroup_page w h acc q hw hh hq]

end Flipdot
