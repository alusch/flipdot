/-
C15 — Reading a frame consumes exactly one line; writing delivers the whole frame.
Theorems about the stream model of Model/Io.lean (std's BufReader / read_until / write_all are
modelled from their contracts — see the header of that file); the composite is tied to the real code
by the instrumented-stream correspondence.
A read schedule is cut at its first line feed: `NoLF pre` says `pre` has none, `bytesOf pre` are the bytes it carries;
a `Patient` sink only ever accepts some bytes or is interrupted.
-/
import Flipdot.Model.Io
import Flipdot.Model.Pipe
namespace Flipdot.C15

/-- The part of a schedule before the line feed: bytes other than LF, and interrupted reads. -/
def NoLF (pre : List REvent) : Prop :=
  ∀ e ∈ pre, e = .interrupted ∨ ∃ b, e = .byte b ∧ b ≠ 10

/-- The data bytes of a schedule, whatever its fragmentation and interrupts. -/
def bytesOf : List REvent → List UInt8
  | [] => []
  | .byte b :: rest => b :: bytesOf rest
  | _ :: rest => bytesOf rest

/-- The pipe model (Model/Pipe.lean) has the same function under its own name. -/
theorem bytesOf_eq_remainingBytes (p : List REvent) : bytesOf p = remainingBytes p := by
  fun_induction bytesOf p <;> simp [remainingBytes, *]

/-- Bytes other than LF and interrupted reads only accumulate: the one induction behind the line, error
    and end-of-stream cases. -/
theorem readUntilLF_append (pre rest : List REvent) (acc : List UInt8) (h : NoLF pre) :
    readUntilLF (pre ++ rest) acc = readUntilLF rest (acc ++ bytesOf pre) := by
  induction pre generalizing acc with
  | nil => simp [bytesOf]
  | cons e pre ih =>
    have hpre : NoLF pre := fun x hx => h x (by simp [hx])
    rcases h e (by simp) with rfl | ⟨b, rfl, hb⟩
    · exact ih acc hpre
    · simp only [List.cons_append, readUntilLF, hb, ↓reduceIte]
      rw [ih _ hpre, List.append_assoc]; rfl

def resultOf : Except FrameErr Frame → IoResult Frame
  | .ok f => .ok f
  | .error e => .frameErr e

/-- Reading consumes the bytes up to and including the first line feed and not one more —
    whatever the fragmentation (the schedule is at byte granularity) and however many interrupted
    reads occur — and the result is the decoding of exactly that line. -/
theorem read_consumes_line (pre post : List REvent) (h : NoLF pre) :
    frameRead (pre ++ .byte 10 :: post) = (resultOf (dec (bytesOf pre ++ [10])), post) := by
  simp only [frameRead, readUntilLF_append pre _ [] h, readUntilLF, ↓reduceIte, List.nil_append]
  cases dec (bytesOf pre ++ [10]) <;> rfl

/-- Two schedules carrying the same bytes give the same result and leave the same rest:
    fragmentation and interrupts are invisible. -/
theorem read_interrupt_invariant (pre pre' post : List REvent) (h : NoLF pre) (h' : NoLF pre')
    (hb : bytesOf pre = bytesOf pre') :
    frameRead (pre ++ .byte 10 :: post) = frameRead (pre' ++ .byte 10 :: post) := by
  rw [read_consumes_line pre post h, read_consumes_line pre' post h', hb]

/-- Back-to-back frames are each returned in order; trailing events stay in the stream. -/
theorem reads_back_to_back (pre1 pre2 post : List REvent) (h1 : NoLF pre1) (h2 : NoLF pre2) :
    let r1 := frameRead (pre1 ++ .byte 10 :: (pre2 ++ .byte 10 :: post))
    let r2 := frameRead r1.2
    r1.1 = resultOf (dec (bytesOf pre1 ++ [10])) ∧ r2.1 = resultOf (dec (bytesOf pre2 ++ [10])) ∧
      r2.2 = post := by
  simp only [read_consumes_line pre1 _ h1, read_consumes_line pre2 _ h2, and_self]

/-- A hard I/O error before the line feed surfaces as an I/O error. -/
theorem read_error_surfaces (pre post : List REvent) (h : NoLF pre) :
    frameRead (pre ++ .error :: post) = (.ioErr, post) := by
  simp only [frameRead, readUntilLF_append pre _ [] h, readUntilLF]

/-- End of stream before a line feed: what was read is decoded as it stands (so a whole frame is still
    accepted: the terminator is optional). -/
theorem read_eof (pre : List REvent) (h : NoLF pre) :
    frameRead pre = (resultOf (dec (bytesOf pre)), []) := by
  have := readUntilLF_append pre [] [] h
  simp only [List.append_nil, List.nil_append, readUntilLF] at this
  simp only [frameRead, this]
  cases dec (bytesOf pre) <;> rfl

/-- A sink that only ever accepts some bytes or reports an interrupted write. -/
def Patient (evs : List WEvent) : Prop :=
  ∀ e ∈ evs, e = .interrupted ∨ ∃ n, e = .accept n ∧ 0 < n

/-- Whatever the sink does, what has been delivered is a prefix of the encoding — nothing else is
    ever written — and success is reported only when all of it was delivered. -/
theorem writeAll_prefix (evs : List WEvent) (buf : List UInt8) :
    (writeAll evs buf).2.1 <+: buf ∧ ((writeAll evs buf).1 = true → (writeAll evs buf).2.1 = buf) := by
  -- arm by arm: only an accepted part (the last arm) delivers anything
  fun_induction writeAll evs buf with
  | case2 e rest buf hb => simp [List.isEmpty_iff.mp hb]
  | case3 rest buf hb ih => exact ih
  | case6 rest buf hb n hn r ih =>
    obtain ⟨⟨t, ht⟩, i2⟩ := ih
    exact ⟨⟨t, by rw [List.append_assoc, ht, List.take_append_drop]⟩,
      fun hok => by rw [i2 hok, List.take_append_drop]⟩
  | _ => simp

theorem write_only_the_encoding (f : Frame) (evs : List WEvent) :
    (frameWrite f evs).2.1 <+: encNL f ∧ ((frameWrite f evs).1 = true → (frameWrite f evs).2.1 = encNL f) :=
  writeAll_prefix evs (encNL f)

/-- Writing delivers exactly the buffer, however few bytes the sink accepts per call and however
    often it is interrupted. -/
theorem writeAll_delivers (evs : List WEvent) (buf : List UInt8) (h : Patient evs) :
    (writeAll evs buf).1 = true ∧ (writeAll evs buf).2.1 = buf := by
  suffices hok : (writeAll evs buf).1 = true from ⟨hok, (writeAll_prefix evs buf).2 hok⟩
  induction evs generalizing buf with
  | nil => rfl
  | cons e evs ih =>
    have hevs : Patient evs := fun x hx => h x (by simp [hx])
    unfold writeAll
    split
    · rfl
    · rcases h e (by simp) with rfl | ⟨n, rfl, hn⟩
      · exact ih buf hevs
      · simp only [Nat.ne_of_gt hn, ↓reduceIte]
        exact ih _ hevs

theorem write_delivers (f : Frame) (evs : List WEvent) (h : Patient evs) :
    (frameWrite f evs).1 = true ∧ (frameWrite f evs).2.1 = encNL f :=
  writeAll_delivers evs (encNL f) h

/-- A hard error (or a zero-length write) while bytes remain surfaces as a failure. -/
theorem writeAll_error_surfaces (pre post : List WEvent) (buf : List UInt8) (bad : WEvent)
    (hbad : bad = .error ∨ bad = .accept 0)
    (hpre : ∀ e ∈ pre, e = .interrupted) (hbuf : buf ≠ []) :
    (writeAll (pre ++ bad :: post) buf).1 = false := by
  have hne : buf.isEmpty = false := by simpa using hbuf
  induction pre with
  | nil => rcases hbad with rfl | rfl <;> simp [writeAll, hne]
  | cons e pre ih =>
    cases hpre e (by simp)
    simp only [List.cons_append, writeAll, hne, Bool.false_eq_true, ↓reduceIte]
    exact ih (fun x hx => hpre x (by simp [hx]))

-- Non-vacuity: the doc example arrives in two fragments with an interrupt in between, followed
-- by the start of another frame.
example : frameRead ([.byte 58, .byte 48, .byte 50, .byte 48, .byte 48, .byte 48, .byte 50, .interrupted,
    .byte 48, .byte 49, .byte 48, .byte 51, .byte 49, .byte 70, .byte 68, .byte 57, .byte 13, .byte 10,
    .byte 58, .byte 48]) = (.ok ⟨2, 1, [3, 31]⟩, [.byte 58, .byte 48]) := by decide +kernel
example : Patient [.accept 3, .interrupted, .accept 1, .accept 100] := by
  intro e he; simp at he; rcases he with rfl | rfl | rfl | rfl <;> simp

end Flipdot.C15
