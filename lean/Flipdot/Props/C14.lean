/-
C14 — Signs sharing a bus are isolated; replies come only from the addressed sign.
A message that carries an address (`Msg.addr?`) is ignored by every sign with another address
(`C13.foreign_silent`); the two data messages carry none (`isData`, defined here) and are ignored by every
sign that is not in the middle of a transfer.
-/
import Flipdot.Lemmas.VSign
import Flipdot.Props.C13
namespace Flipdot.C14

/-- A sign only ever replies to a message carrying its own address, and its reply carries that
    address too. -/
theorem reply_addr (s s' : VSign) (m x : Msg) (h : vstep s m = .ok (s', some x)) :
    m.addr? = some s.addr ∧ x.addr? = some s.addr := by
  cases vstep_step h with
  | query hm => rcases hm with rfl | rfl <;> exact ⟨rfl, rfl⟩
  | request => exact ⟨rfl, rfl⟩

/-- A message for an address nobody has gets no reply and changes nothing. -/
theorem absent_noop (bus : List VSign) (m : Msg) (a : UInt16) (ha : m.addr? = some a)
    (hab : ∀ s ∈ bus, s.addr ≠ a) : busStep bus m = .ok (bus, none) := by
  simpa using (BusStep.skip (fun s hs => C13.foreign_silent s m a ha (Ne.symm (hab s hs))) .nil).eq

/-- A message addressed to `a` never changes any sign with a different address. -/
theorem addressed_isolated (bus bus' : List VSign) (m : Msg) (a : UInt16) (r : Option Msg)
    (ha : m.addr? = some a) (h : busStep bus m = .ok (bus', r)) :
    bus'.length = bus.length ∧ ∀ (i : Nat) (s : VSign), bus[i]? = some s → s.addr ≠ a → bus'[i]? = some s :=
  (busStep_rel h).unchanged (C := fun s => s.addr ≠ a) fun s hne => C13.foreign_silent s m a ha (Ne.symm hne)

theorem addr_ne_head {s : VSign} {rest : List VSign} (hd : ((s :: rest).map (·.addr)).Nodup) :
    ∀ u ∈ rest, u.addr ≠ s.addr :=
  fun u hu e => (List.nodup_cons.mp hd).1 (List.mem_map.mpr ⟨u, hu, e⟩)

/-- With distinct addresses the bus is its signs side by side: each ends up where it would be had it received the
    message alone, and what the sign the message is addressed to would have replied alone is what the bus replies. -/
theorem side_by_side (bus bus' : List VSign) (m : Msg) (r : Option Msg)
    (hd : (bus.map (·.addr)).Nodup) (h : busStep bus m = .ok (bus', r)) :
    ∀ (i : Nat) (s : VSign), bus[i]? = some s →
      ∃ s' r', vstep s m = .ok (s', r') ∧ bus'[i]? = some s' ∧ (m.addr? = some s.addr → r' = r) := by
  replace h := busStep_rel h
  induction h with
  | nil => simp
  | @reply s0 s0' x rest hs =>
    intro i t hi
    cases i with
    | zero => cases hi; exact ⟨s0', _, hs, rfl, fun _ => rfl⟩
    | succ i =>
      -- a later sign: the message is addressed to the head sign, so alone it would ignore it
      have hm := (reply_addr s0 s0' m x hs).1
      have hne := (addr_ne_head hd t (List.mem_of_getElem? hi)).symm
      exact ⟨t, none, C13.foreign_silent t m s0.addr hm hne, hi,
        fun e => absurd (Option.some.inj (hm.symm.trans e)) hne⟩
  | @pass s s' rest rest' r hs hr ih =>
    intro i t hi
    cases i with
    | zero =>
      cases hi
      refine ⟨s', none, hs, rfl, fun ha => ?_⟩
      -- the head sign is the addressed one and stayed silent; nobody else has its address
      cases (absent_noop rest m s.addr ha (addr_ne_head hd)).symm.trans hr.eq
      rfl
    | succ i => exact ih (List.nodup_cons.mp hd).2 i t hi

/-- With distinct addresses, the reply (if any) is exactly what the addressed sign alone would have
    replied, that sign moves as it alone would have moved, and the reply carries its address. -/
theorem reply_is_own (bus bus' : List VSign) (m : Msg) (a : UInt16) (r : Option Msg)
    (ha : m.addr? = some a) (hd : (bus.map (·.addr)).Nodup) (h : busStep bus m = .ok (bus', r)) :
    (∀ (i : Nat) (s : VSign), bus[i]? = some s → s.addr = a →
        ∃ s', vstep s m = .ok (s', r) ∧ bus'[i]? = some s') ∧
    (∀ x, r = some x → x.addr? = some a) := by
  refine ⟨fun i s hi hsa => ?_, fun x hx => ?_⟩
  · obtain ⟨s', r', h1, h2, h3⟩ := side_by_side bus bus' m r hd h i s hi
    exact ⟨s', h3 (hsa ▸ ha) ▸ h1, h2⟩
  · -- whoever replied is addressed by the message, and replies under its own address
    obtain ⟨s, -, s', hs⟩ := (busStep_rel h).reply_of hx
    obtain ⟨hm, hxa⟩ := reply_addr s s' m x hs
    rw [hxa, ← hm, ha]

/-- Is `m` one of the unaddressed data messages? -/
def isData : Msg → Bool
  | .sendData _ _ | .chunksSent _ => true
  | _ => false

/-- An unaddressed data message leaves a sign that is not receiving completely unchanged (for any
    state the sign can be in: the invariant says nothing is buffered outside a transfer), and is
    never answered. -/
theorem data_nonreceiving_unchanged (s : VSign) (m : Msg) (hm : isData m = true)
    (hi : s.Inv) (hr : s.state.receiving = false) : vstep s m = .ok (s, none) := by
  cases m <;> simp only [isData, Bool.false_eq_true] at hm
  · exact vstep_data (VSign.sendData_idle s _ _ hr)
  · simp only [vstep, hi.chunksSent_idle hr]

/-- On a bus: an unaddressed data message is never answered, and every sign that is not in a
    receiving state (and is in a state reachable at all) is unchanged. -/
theorem unaddressed_only_receiving (bus bus' : List VSign) (m : Msg) (r : Option Msg)
    (hm : isData m = true) (h : busStep bus m = .ok (bus', r)) :
    r = none ∧ bus'.length = bus.length ∧
    ∀ (i : Nat) (s : VSign), bus[i]? = some s → s.Inv → s.state.receiving = false → bus'[i]? = some s := by
  have hb := busStep_rel h
  obtain ⟨hl, hp⟩ := hb.unchanged (C := fun s => s.Inv ∧ s.state.receiving = false)
    fun s hs => data_nonreceiving_unchanged s m hm hs.1 hs.2
  refine ⟨?_, hl, fun i s hi hinv hr => hp i s hi ⟨hinv, hr⟩⟩
  cases r with
  | none => rfl
  | some x =>
    -- a reply would come from a sign the message is addressed to
    obtain ⟨s, -, s', hs⟩ := hb.reply_of rfl
    have := (reply_addr s s' m x hs).1
    cases m <;> cases hm <;> cases this

/-- The invariant used above holds of every sign on a bus built from fresh signs, after any
    history (so the hypothesis `s.Inv` is met by every reachable bus). -/
theorem bus_inv_preserved (bus bus' : List VSign) (m : Msg) (r : Option Msg)
    (hi : ∀ s ∈ bus, s.Inv) (h : busStep bus m = .ok (bus', r)) : ∀ s ∈ bus', s.Inv := by
  replace h := busStep_rel h
  induction h with
  | nil => exact hi
  | reply hs =>
    rw [List.forall_mem_cons] at hi ⊢
    exact ⟨hi.1.vstep hs, hi.2⟩
  | pass hs _ ih =>
    rw [List.forall_mem_cons] at hi ⊢
    exact ⟨hi.1.vstep hs, ih hi.2⟩

/-- Isolation in one statement: with distinct addresses, every sign on the bus ends up exactly
    where it would be had it received the message alone. -/
theorem each_sign_as_if_alone (bus bus' : List VSign) (m : Msg) (r : Option Msg)
    (hd : (bus.map (·.addr)).Nodup) (h : busStep bus m = .ok (bus', r)) :
    ∀ (i : Nat) (s : VSign), bus[i]? = some s → ∃ s' r', vstep s m = .ok (s', r') ∧ bus'[i]? = some s' :=
  fun i s hi =>
    have ⟨s', r', h1, h2, _⟩ := side_by_side bus bus' m r hd h i s hi
    ⟨s', r', h1, h2⟩

-- A two-sign bus with distinct addresses; the addressed sign answers.
example : ([VSign.new 3 .manual, VSign.new 4 .automatic].map (·.addr)).Nodup := by decide
example : busStep [VSign.new 3 .manual, VSign.new 4 .automatic] (.hello 4) =
    .ok ([VSign.new 3 .manual, VSign.new 4 .automatic], some (.reportState 4 .unconfigured)) := by
  decide

end Flipdot.C14
