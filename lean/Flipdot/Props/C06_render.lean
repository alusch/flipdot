/-
C06 (continued) — the printed picture.  `Display for Page` is the one further way a user observes pixels; it is
tied to the same abstract picture as `get_pixel`: `specRender f w h` is the text a picture `f` prints as (`specRow` one
line of it), and a page that `Shows` `f` renders to exactly that (`render_shows`).  So printing never panics on a
well-formed page, follows any in-bounds history, and has the documented shape (`specRender_length`).
-/
import Flipdot.Model.Display
import Flipdot.Props.C06
namespace Flipdot.C06

/-- One printed row of the picture `f`. -/
def specRow (f : Nat → Nat → Bool) (w y : Nat) : List UInt8 :=
  124 :: ((List.range' 0 w).map (fun x => dot (f x y)) ++ [124, 10])

/-- The whole printed picture `f` at `w × h`. -/
def specRender (f : Nat → Nat → Bool) (w h : Nat) : List UInt8 :=
  border w ++ [10] ++ (List.range' 0 h).flatMap (specRow f w) ++ border w

theorem dotsFrom_shows (p q : Page) (f : Nat → Nat → Bool) (hs : Shows p q f) (y : Nat) (hy : y < q.h) :
    ∀ n x, x + n ≤ q.w → p.dotsFrom y n x = .ok ((List.range' x n).map (fun x => dot (f x y))) := by
  intro n
  induction n with
  | zero => intro x _; rfl
  | succ n ih =>
    intro x hx
    have hg := hs.2.2.2.1 x y (by omega) hy
    simp only [Page.dotsFrom, hg, ih (x + 1) (by omega), List.range'_succ, List.map_cons]

theorem rowsFrom_shows (p q : Page) (f : Nat → Nat → Bool) (hs : Shows p q f) :
    ∀ n y, y + n ≤ q.h → p.rowsFrom n y = .ok ((List.range' y n).flatMap (specRow f q.w)) := by
  intro n
  induction n with
  | zero => intro y _; rfl
  | succ n ih =>
    intro y hy
    have hd := dotsFrom_shows p q f hs y (by omega) q.w 0 (by omega)
    simp only [Page.rowsFrom, hs.2.1, hd, ih (y + 1) (by omega), List.range'_succ, List.flatMap_cons, specRow]

/-- The rendering of a page that shows picture `f` is the printed picture `f`. -/
theorem render_shows (p q : Page) (f : Nat → Nat → Bool) (hs : Shows p q f) :
    p.render = .ok (specRender f q.w q.h) := by
  have hr := rowsFrom_shows p q f hs q.h 0 (by omega)
  unfold Page.render specRender
  rw [hs.2.2.1, hr, hs.2.1]

/-- Printing a well-formed page never panics and prints its own pixels. -/
theorem render_never_panics (p : Page) (hp : p.WF) : p.render = .ok (specRender (picture p) p.w p.h) :=
  render_shows p p (picture p) (shows_self p hp)

/-- After any history of in-bounds operations the printed picture is exactly the specified one: each `set`
    changed the one character of its pixel and nothing else, each `set_all` every pixel. -/
theorem render_history (p : Page) (hp : p.WF) (ops : List PageOp) (hops : ∀ op ∈ ops, op.inb p.w p.h) :
    ∃ p', applyOps p ops = .ok p' ∧ p'.render = .ok (specRender (specOps (picture p) ops) p.w p.h) := by
  obtain ⟨p', ha, hs⟩ := history p hp ops hops
  exact ⟨p', ha, render_shows p' p _ hs⟩

theorem border_length (w : Nat) : (border w).length = w + 2 := by simp [border]

theorem specRow_length (f : Nat → Nat → Bool) (w y : Nat) : (specRow f w y).length = w + 3 := by
  simp [specRow]

theorem rows_length (f : Nat → Nat → Bool) (w : Nat) : ∀ n y,
    ((List.range' y n).flatMap (specRow f w)).length = n * (w + 3) := by
  intro n
  induction n with
  | zero => simp
  | succ n ih =>
    intro y
    rw [List.range'_succ, List.flatMap_cons, List.length_append, ih, specRow_length]
    rw [Nat.succ_mul]; omega

/-- Shape: `height + 2` lines of `width + 2` characters, newline-separated, no trailing newline. -/
theorem specRender_length (f : Nat → Nat → Bool) (w h : Nat) :
    (specRender f w h).length = (h + 2) * (w + 3) - 1 := by
  simp only [specRender, List.length_append, border_length, rows_length, List.length_cons, List.length_nil]
  rw [Nat.add_mul]; omega

-- Non-vacuity / the documented look: a 3 × 2 page with (1, 0) lit prints "+---+\n| @ |\n|   |\n+---+".
example : (match (Page.new 0 3 2).set 1 0 true with
    | .ok p => p.render
    | .error e => .error e) =
    .ok [43,45,45,45,43,10, 124,32,64,32,124,10, 124,32,32,32,124,10, 43,45,45,45,43] := by
  decide +kernel

end Flipdot.C06
