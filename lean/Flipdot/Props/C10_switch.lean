/-
C10 (continued) — the polling protocol of `show_loaded_page` / `load_next_page` is exact as well: a conversation
satisfies `SwitchSpec` (and is not the model's own out-of-fuel artefact) if and only if the controller produces it,
so also here the replies seen so far determine every message sent and the outcome.
-/
import Flipdot.Lemmas.CtrlConv
namespace Flipdot.C10

theorem switchPage_exact (a : UInt16) (target trigger : State) (op : Op) (c : List Ex) (o : Outcome Unit)
    (ho : o ≠ .outOfFuel) :
    SwitchSpec a target trigger op c o ↔
      ∃ fuel script, (switchPage a target trigger op fuel).run script = (c, o) := by
  simp only [← Prog.conv_iff_run]
  exact ⟨fun h => ⟨_, switchPage_complete a target trigger op _ h ho (Nat.lt_succ_self _)⟩,
    fun ⟨fuel, h⟩ => switchPage_sound a target trigger op fuel h⟩

/-- `show_loaded_page`: the documented polling protocol allows exactly the conversations the controller has. -/
theorem showLoadedPage_exact (a : UInt16) (c : List Ex) (o : Outcome Unit) (ho : o ≠ .outOfFuel) :
    SwitchSpec a .pageShown .pageLoaded .showLoadedPage c o ↔
      ∃ fuel script, (showLoadedPage a fuel).run script = (c, o) :=
  switchPage_exact a _ _ _ c o ho

/-- `load_next_page` likewise. -/
theorem loadNextPage_exact (a : UInt16) (c : List Ex) (o : Outcome Unit) (ho : o ≠ .outOfFuel) :
    SwitchSpec a .pageLoaded .pageShown .loadNextPage c o ↔
      ∃ fuel script, (loadNextPage a fuel).run script = (c, o) :=
  switchPage_exact a _ _ _ c o ho

/-- The polling protocol is functional: two allowed conversations with the same replies are the same conversation
    with the same outcome — however many in-progress reports the sign sends. -/
theorem switchSpec_functional (a : UInt16) (target trigger : State) (op : Op) (c c' : List Ex) (o o' : Outcome Unit)
    (ho : o ≠ .outOfFuel) (ho' : o' ≠ .outOfFuel)
    (h : SwitchSpec a target trigger op c o) (h' : SwitchSpec a target trigger op c' o')
    (hr : repliesOf c = repliesOf c') : c = c' ∧ o = o' :=
  -- both are conversations of the same program: take a fuel large enough for both
  (switchPage_complete a target trigger op (c.length + c'.length + 1) h ho (by omega)).functional
    (switchPage_complete a target trigger op _ h' ho' (by omega)) hr

/-- Non-vacuity: a sign that reports "show in progress" three times and then "shown" — four polls, success. -/
example :
    SwitchSpec 3 .pageShown .pageLoaded .showLoadedPage
      [ans (.queryState 3) (some (.reportState 3 .pageShowInProgress)),
       ans (.queryState 3) (some (.reportState 3 .pageShowInProgress)),
       ans (.queryState 3) (some (.reportState 3 .pageShowInProgress)),
       ans (.queryState 3) (some (.reportState 3 .pageShown))] (.ok ()) := by
  refine .waiting _ _ _ (by decide) (by decide) (by decide) (.inr rfl) ?_
  refine .waiting _ _ _ (by decide) (by decide) (by decide) (.inr rfl) ?_
  refine .waiting _ _ _ (by decide) (by decide) (by decide) (.inr rfl) ?_
  exact .reached

end Flipdot.C10
