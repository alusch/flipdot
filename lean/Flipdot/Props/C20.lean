/-
C20 — Port setup always yields 19200 8N1 without flow control, or an error.
The device is modelled as a record (settings + timeout) with one injectable failure per call;
serial-core's blanket `reconfigure` is exercised for real by the correspondence check.
-/
import Flipdot.Model.Serial
namespace Flipdot.C20

/-- Whatever the settings before: after a successful set-up the port is at 19200 baud, 8 data bits,
    no parity, 1 stop bit, no flow control, with the caller's read timeout. -/
theorem configured_19200_8N1 (d : Device) (t : Nat) :
    configurePort d t .never =
      (true, ⟨⟨.b19200, .bits8, .none, .stop1, .none⟩, some t⟩) := rfl

/-- `SerialSignBus::try_new` applies 5 s, `Odk::try_new` 10 s. -/
theorem tryNew_timeout_5s (d : Device) :
    serialTryNew d .never = (true, ⟨luminatorSettings, some 5000⟩) := rfl

theorem odk_timeout_10s (d : Device) :
    odkTryNew d .never = (true, ⟨luminatorSettings, some 10000⟩) := rfl

/-- If the port refuses any step, the result is an error (no object is returned). -/
theorem failure_returns_err (d : Device) (t : Nat) (f : FailAt) (h : f ≠ .never) :
    (configurePort d t f).1 = false := by
  cases f <;> first | rfl | exact absurd rfl h

theorem constructors_fail (d : Device) (f : FailAt) (h : f ≠ .never) :
    (serialTryNew d f).1 = false ∧ (odkTryNew d f).1 = false :=
  ⟨failure_returns_err d 5000 f h, failure_returns_err d 10000 f h⟩

/-- Success happens only without failure (and then `configured_19200_8N1` gives the settings). -/
theorem ok_iff (d : Device) (t : Nat) (f : FailAt) :
    (configurePort d t f).1 = true ↔ f = .never := by
  cases f <;> simp [configurePort]

/-- A failure before the settings are written leaves the device as it was. -/
theorem early_failure_leaves_device (d : Device) (t : Nat) (f : FailAt)
    (h : f = .readSettings ∨ f = .setBaud ∨ f = .writeSettings) : (configurePort d t f).2 = d := by
  rcases h with rfl | rfl | rfl <;> rfl

example : (configurePort ⟨⟨.other 4000000, .bits5, .even, .stop2, .hardware⟩, none⟩ 1234 .never).2.settings.baud = .b19200 := rfl

end Flipdot.C20
