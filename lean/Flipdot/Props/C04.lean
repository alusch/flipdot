/-
C04 — Frame → Message → Frame is the identity and follows the protocol code table.
The table is written down here independently of `toMsg`: `rows` lists the 29 one-byte messages as
(type, byte, `Kind`), `lookup` searches it, and `table` adds the two kinds that are not one-byte (data chunk,
chunk count) and the fall-through to `.unknown`.  `toMsg_eq_table` identifies `toMsg` with it by
`toMsg_unique`: both undo `toFrame`.
-/
import Flipdot.Lemmas.Message
namespace Flipdot.C04

/-- Frame → Message → Frame is the identity for every frame (so traffic that is not understood is
    forwarded unchanged). -/
theorem toFrame_toMsg (f : Frame) : toFrame (toMsg f) = f := Flipdot.toFrame_toMsg f

/-- The addressed one-byte message kinds (the rows of the table below; not `Flipdot.Kind` of Tie/Kind.lean,
    which also has the data, count and unknown kinds). -/
inductive Kind where
  | hello | query | goodbye | report (s : State) | request (o : Op) | ack (o : Op) | pixelsComplete
  deriving DecidableEq, Repr

def Kind.mk (a : UInt16) : Kind → Msg
  | .hello => .hello a
  | .query => .queryState a
  | .goodbye => .goodbye a
  | .report s => .reportState a s
  | .request o => .requestOp a o
  | .ack o => .ackOp a o
  | .pixelsComplete => .pixelsComplete a

/-- (message type, first data byte, meaning) for frames with exactly one data byte:
    hello/query/goodbye, the 6 operation requests, the 6 acknowledgements, the 13 states,
    pixels complete. -/
def rows : List (UInt8 × UInt8 × Kind) := [
  (2, 0xFF, .hello), (2, 0x00, .query), (2, 0x55, .goodbye),
  (3, 0xA1, .request .receiveConfig), (3, 0xA2, .request .receivePixels),
  (3, 0xA9, .request .showLoadedPage), (3, 0xAA, .request .loadNextPage),
  (3, 0xA6, .request .startReset), (3, 0xA7, .request .finishReset),
  (5, 0x95, .ack .receiveConfig), (5, 0x91, .ack .receivePixels),
  (5, 0x96, .ack .showLoadedPage), (5, 0x97, .ack .loadNextPage),
  (5, 0x93, .ack .startReset), (5, 0x94, .ack .finishReset),
  (4, 0x0F, .report .unconfigured), (4, 0x0D, .report .configInProgress),
  (4, 0x07, .report .configReceived), (4, 0x0C, .report .configFailed),
  (4, 0x03, .report .pixelsInProgress), (4, 0x01, .report .pixelsReceived),
  (4, 0x0B, .report .pixelsFailed), (4, 0x10, .report .pageLoaded),
  (4, 0x13, .report .pageLoadInProgress), (4, 0x12, .report .pageShown),
  (4, 0x11, .report .pageShowInProgress), (4, 0x00, .report .showingPages),
  (4, 0x08, .report .readyToReset),
  (6, 0x00, .pixelsComplete)]

def lookup (ty b : UInt8) : Option Kind :=
  (rows.find? (fun r => r.1 == ty && r.2.1 == b)).map (·.2.2)

/-- The protocol table of the property statement: data chunk = type 0 (any length); chunk count =
    type 1 with no data; one-byte messages by `rows`; everything else unknown. -/
def table (f : Frame) : Msg :=
  if f.ty = 0 then .sendData f.addr f.data
  else if f.ty = 1 ∧ f.data = [] then .chunksSent f.addr
  else match f.data with
    | [b] => match lookup f.ty b with
      | some k => k.mk f.addr
      | none => .unknown f
    | _ => .unknown f

/-- Each row of the table is the frame layout `toFrame` gives its kind. -/
theorem rows_toFrame : ∀ r ∈ rows, toFrame (r.2.2.mk 0) = ⟨0, r.1, [r.2.1]⟩ := by decide

theorem toFrame_mk (k : Kind) (a : UInt16) :
    toFrame (k.mk a) = ⟨a, (toFrame (k.mk 0)).ty, (toFrame (k.mk 0)).data⟩ := by cases k <;> rfl

theorem toFrame_lookup {ty b : UInt8} {k : Kind} (a : UInt16) (h : lookup ty b = some k) :
    toFrame (k.mk a) = ⟨a, ty, [b]⟩ := by
  obtain ⟨r, hr, rfl⟩ := Option.map_eq_some_iff.mp h
  have hp := List.find?_some hr
  simp only [Bool.and_eq_true, beq_iff_eq] at hp
  rw [toFrame_mk, rows_toFrame r (List.mem_of_find?_eq_some hr), hp.1, hp.2]

theorem toFrame_table (f : Frame) : toFrame (table f) = f := by
  obtain ⟨a, ty, d⟩ := f
  fun_cases table _ <;> simp_all [toFrame]
  exact toFrame_lookup _ ‹_›

theorem table_toFrame (m : Msg) (h : m.Specific) : table (toFrame m) = m := by
  cases m with
  | unknown f => exact h.elim
  | reportState a s => cases s <;> rfl
  | requestOp a o => cases o <;> rfl
  | ackOp a o => cases o <;> rfl
  | _ => rfl

/-- The message mapping *is* the protocol table, for every frame: both undo `toFrame` on specific
    messages and are undone by it everywhere. -/
theorem toMsg_eq_table (f : Frame) : toMsg f = table f :=
  (toMsg_unique table table_toFrame toFrame_table f).symm

theorem Kind.mk_ne_unknown (k : Kind) (a : UInt16) (f : Frame) : k.mk a ≠ .unknown f := by
  cases k <;> nofun

/-- A frame is reported unknown exactly when the table has no row for it. -/
theorem unknown_iff (f : Frame) :
    toMsg f = .unknown f ↔
      f.ty ≠ 0 ∧ ¬ (f.ty = 1 ∧ f.data = []) ∧ ∀ b, f.data = [b] → lookup f.ty b = none := by
  rw [toMsg_eq_table]
  -- arm by arm: the right-hand side is the path condition of the two arms of `table` that answer
  -- `.unknown f`, and no other arm answers that
  fun_cases table f <;> simp_all [Kind.mk_ne_unknown]

/-- The address field is carried over unchanged into whatever message results. -/
theorem addr_carried (f : Frame) :
    (match toMsg f with
     | .sendData off _ => off = f.addr
     | .chunksSent n => n = f.addr
     | .hello a | .queryState a | .reportState a _ | .requestOp a _ | .ackOp a _
     | .pixelsComplete a | .goodbye a => a = f.addr
     | .unknown g => g = f) := by
  have h := toFrame_toMsg f
  cases hm : toMsg f <;> rw [hm] at h <;> simp [toFrame] at h ⊢ <;> first | (rw [← h]) | exact h

/-- The table has exactly 29 one-byte rows, no two of them for the same (type, byte). -/
theorem rows_distinct :
    rows.length = 29 ∧ (rows.map fun r => (r.1, r.2.1)).Nodup := by decide +kernel

-- Non-vacuity / sanity: rows of the table and a non-row.
example : toMsg ⟨3, 2, [0xFF]⟩ = .hello 3 := by decide
example : toMsg ⟨0xABCD, 5, [0x95]⟩ = .ackOp 0xABCD .receiveConfig := by decide
example : toMsg ⟨16, 0, [7]⟩ = .sendData 16 [7] := by decide
example : toMsg ⟨0xBEEF, 255, [0xAA]⟩ = .unknown ⟨0xBEEF, 255, [0xAA]⟩ := by decide

end Flipdot.C04
