/-
C06 (continued) — what a fresh page and a filled page look like: `Page::new` reads all dark (`new_get`) and prints as
an empty frame; after `set_all_pixels(v)` the page prints as all `v` (that it reads all `v` is `setAll_get` in C06.lean).
-/
import Flipdot.Props.C06_render
import Flipdot.Props.C07
namespace Flipdot.C06

/-- Every pixel of a new page reads dark. -/
theorem new_get (id : UInt8) (w h x y : Nat) (hx : x < w) (hy : y < h) :
    (Page.new id w h).get x y = .ok false := by
  have h1 : 4 + x * bpc h + y / 8 < 4 + w * bpc h := index_lt w h x y hx hy
  have hb : (Page.new id w h).bytes[4 + x * bpc h + y / 8]? = some 0 := by
    rw [C07.new_bytes]; exact getElem?_mid _ _ _ _ _ (by simp; omega) (by simp; omega)
  exact (Page.get_of_byte hx hy hb).trans (congrArg _ (testMask_00 _ (by omega)))

/-- A new page prints as an empty frame. -/
theorem render_new (id : UInt8) (w h : Nat) :
    (Page.new id w h).render = .ok (specRender (fun _ _ => false) w h) :=
  render_shows (Page.new id w h) (Page.new id w h) _
    ⟨C07.new_wf id w h, rfl, rfl, fun x y hx hy => new_get id w h x y hx hy, fun _ _ => rfl⟩

/-- After `set_all_pixels(v)` the page prints as all lit / all dark. -/
theorem render_setAll (p p' : Page) (hp : p.WF) (v : Bool) (h : p.setAll v = .ok p') :
    p'.render = .ok (specRender (fun _ _ => v) p.w p.h) :=
  render_shows p' p _ (step_shows (op := .setAll v) (shows_self p hp) h)

end Flipdot.C06
