/-
C19 — Sign-type configuration blocks are self-consistent and decoding them is total.
Defined here, all read off `SignType.toBytes`: `code`, the (family, id) bytes that `SignType.fromBytes`
looks a block up by; `field`, a byte of the block as a number; `isMax3000` / `isHorizon`, the family byte.
-/
import Flipdot.Model.SignType
import Flipdot.Model.VSign
namespace Flipdot.C19

/-- Every configuration block is 16 bytes. -/
theorem toBytes_len16 (t : SignType) : t.toBytes.length = 16 := by cases t <;> rfl

/-- A block decodes back to its type. -/
theorem fromBytes_toBytes (t : SignType) : SignType.fromBytes t.toBytes = .ok (.ok t) := by
  cases t <;> rfl

/-- The (family, id) bytes of a type. -/
def code (t : SignType) : UInt8 × UInt8 := (t.toBytes.getD 0 0, t.toBytes.getD 1 0)

/-- Byte `i` of the block as a number. -/
def field (t : SignType) (i : Nat) : Nat := (t.toBytes.getD i 0).toNat

def isMax3000 (t : SignType) : Prop := t.toBytes.getD 0 0 = 0x04
def isHorizon (t : SignType) : Prop := t.toBytes.getD 0 0 = 0x08

instance (t : SignType) : Decidable (isMax3000 t) := by unfold isMax3000; infer_instance
instance (t : SignType) : Decidable (isHorizon t) := by unfold isHorizon; infer_instance

theorem family_total (t : SignType) : isMax3000 t ∨ isHorizon t := by cases t <;> decide

/-- Max3000: height byte, sum of the four panel widths and bits-per-column agree with the
    reported dimensions. -/
theorem max3000_fields (t : SignType) (h : isMax3000 t) :
    field t 4 = t.dims.2 ∧ field t 5 + field t 6 + field t 7 + field t 8 = t.dims.1 ∧
    field t 9 = 8 * ((t.dims.2 + 7) / 8) := by
  cases t <;> first | decide | exact absurd h (by decide)

/-- Horizon: height byte, width byte = A1*B1 + A2*B2 agree with the reported dimensions. -/
theorem horizon_fields (t : SignType) (h : isHorizon t) :
    field t 5 = t.dims.2 ∧ field t 7 = t.dims.1 ∧
    field t 8 * field t 10 + field t 9 * field t 11 = t.dims.1 := by
  cases t <;> first | decide | exact absurd h (by decide)

/-- What a virtual sign derives from the block is the type's reported dimensions. -/
theorem vsign_dims_agree (t : SignType) : configDims t.toBytes = .ok (some t.dims) := by
  cases t <;> rfl

/-- Every length other than 16 is rejected, reporting the expected and actual lengths. -/
theorem fromBytes_len (bs : List UInt8) (h : bs.length ≠ 16) :
    SignType.fromBytes bs = .ok (.error (.wrongLen 16 bs.length)) :=
  (SignType.fromBytes_wrongLen bs h).1

/-- On 16 bytes the verdict is the lookup of the first two (both indexings are in bounds). -/
theorem fromBytes_len16 (bs : List UInt8) (h : bs.length = 16) :
    SignType.fromBytes bs = .ok (match SignType.ofCode? (bs.getD 0 0) (bs.getD 1 0) with
      | some t => .ok t
      | none => .error .unknownConfig) := by
  unfold SignType.fromBytes
  have h0 : 0 < bs.length := by omega
  have h1 : 1 < bs.length := by omega
  simp only [h, ne_eq, not_true_eq_false, ↓reduceIte, List.getElem?_eq_getElem h0,
    List.getElem?_eq_getElem h1, List.getD_eq_getElem?_getD, Option.getD_some]
  cases SignType.ofCode? bs[0] bs[1] <;> rfl

/-- Decoding never panics (the two index operations are guarded by the length test). -/
theorem fromBytes_no_panic (bs : List UInt8) : ∃ r, SignType.fromBytes bs = .ok r := by
  by_cases h : bs.length = 16
  · exact ⟨_, fromBytes_len16 bs h⟩
  · exact ⟨_, fromBytes_len bs h⟩

theorem ofCode?_code (t : SignType) : SignType.ofCode? (code t).1 (code t).2 = some t := by
  cases t <;> rfl

/-- One arm of an `if`-chain of `some`s. -/
theorem ite_some_eq {α : Type} {c : Prop} [Decidable c] {a t : α} {e : Option α}
    (h : (if c then some a else e) = some t) : c ∧ a = t ∨ e = some t := by
  by_cases hc : c
  · rw [if_pos hc] at h; exact .inl ⟨hc, Option.some.inj h⟩
  · rw [if_neg hc] at h; exact .inr h

/-- The match of `from_bytes` is the inverse of `code`. -/
theorem ofCode?_eq_some_iff (fam id : UInt8) (t : SignType) :
    SignType.ofCode? fam id = some t ↔ (fam, id) = code t := by
  refine ⟨fun h => ?_, fun h => by have := ofCode?_code t; rwa [← h] at this⟩
  unfold SignType.ofCode? at h
  by_cases h4 : fam = 4
  · rw [if_pos h4] at h; subst h4
    iterate 6 (rcases ite_some_eq h with ⟨rfl, rfl⟩ | h; · rfl)
    cases h
  · rw [if_neg h4] at h
    by_cases h8 : fam = 8
    · rw [if_pos h8] at h; subst h8
      iterate 5 (rcases ite_some_eq h with ⟨rfl, rfl⟩ | h; · rfl)
      cases h
    · rw [if_neg h8] at h; cases h

/-- A 16-byte block is accepted exactly when its family and id bytes are those of a supported
    type (the other 14 bytes are not looked at). -/
theorem fromBytes_ok_iff (bs : List UInt8) (h : bs.length = 16) (t : SignType) :
    SignType.fromBytes bs = .ok (.ok t) ↔ (bs.getD 0 0, bs.getD 1 0) = code t := by
  rw [fromBytes_len16 bs h, ← ofCode?_eq_some_iff]
  cases SignType.ofCode? (bs.getD 0 0) (bs.getD 1 0) <;> simp

/-- Rejections of 16-byte blocks are "unknown configuration". -/
theorem fromBytes_unknown (bs : List UInt8) (h : bs.length = 16)
    (hn : ∀ t, (bs.getD 0 0, bs.getD 1 0) ≠ code t) :
    SignType.fromBytes bs = .ok (.error .unknownConfig) := by
  rw [fromBytes_len16 bs h]
  split
  · rename_i t ht; exact absurd ((ofCode?_eq_some_iff _ _ t).mp ht) (hn t)
  · rfl

/-- The 11 types have pairwise different (family, id) codes. -/
theorem codes_distinct : (SignType.all.map code).Nodup ∧ SignType.all.length = 11 := by decide

example : isMax3000 .max3000Side90x7 ∧ isHorizon .horizonDash40x12 := by decide
example : SignType.fromBytes (List.replicate 16 0) = .ok (.error .unknownConfig) := by decide
example : SignType.fromBytes [4, 0x20] = .ok (.error (.wrongLen 16 2)) := by decide

end Flipdot.C19
