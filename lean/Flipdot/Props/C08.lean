/-
C08 — Pages sent through the controller arrive bit-exact, from any prior sign state.
Controller model (src/sign.rs) composed with the virtual sign / bus model
(libs/testing/src/virtual_sign_bus.rs): `Prog.runOn` (Model/Compose.lean) runs a controller tree against a
bus of virtual signs, `Prog.runOn1` against one sign; Lemmas/Compose.lean has the two operations followed
message by message.  Defined here: `afterSend`, the sign as `send_pages` leaves it.
-/
import Flipdot.Lemmas.Compose
namespace Flipdot.C08

/-- `switch_page`, like every controller operation (`Ctrl.ctrlMsgs`), only sends messages the other signs on
    the bus ignore. -/
theorem switchPage_ctrl (a : UInt16) (target trigger : State) (op : Op) (fuel : Nat) :
    (switchPage a target trigger op fuel).AllSends (CtrlMsg a) :=
  (ctrl_switchPage a target trigger op fuel).ctrlMsgs

/-- Whatever state the addressed sign was left in by earlier traffic (`s.Inv` holds of every state
    a message history can produce — `VSign.Reachable.inv`), and whoever else is idle on the bus:
    `configure` succeeds and leaves the sign configured as the requested type with no pages; all
    other signs are untouched. -/
theorem configure_clean (pre post : List VSign) (s : VSign) (t : SignType) (hi : s.Inv)
    (hpre : Others s.addr pre) (hpost : Others s.addr post) :
    (configure s.addr t).runOn (pre ++ s :: post) =
      (.ok (), pre ++ VSign.configured s.addr s.style t :: post) := by
  rw [runOn_focus s.addr pre post _ s hpre hpost (ctrl_configure s.addr t).ctrlMsgs, configure_runOn1 s hi t]

/-- Every supported sign has a non-empty display whose pages fit the 16-bit offset range. -/
theorem dims_ok (t : SignType) :
    0 < t.dims.1 ∧ 0 < t.dims.2 ∧ totalBytes t.dims.1 t.dims.2 ≤ 65536 := by
  cases t <;> decide

/-- The sign after `send_pages`: it holds exactly the pages sent, in order, byte for byte, and is in
    the page-loaded (manual) or showing-pages (automatic) state. -/
def afterSend (s : VSign) (ps : List Page) : VSign :=
  s.loaded ps (match s.style with | .automatic => .showingPages | .manual => .pageLoaded)

theorem sendPages_runOn1 (s : VSign) (hi : s.Inv) (hst : VSign.canReceivePixels s.state = true)
    (hw : 0 < s.w) (hh : 0 < s.h) (hsz : totalBytes s.w s.h ≤ 65536)
    (ps : List Page) (hps : ∀ p ∈ ps, p.w = s.w ∧ p.h = s.h ∧ p.WF)
    (hn : (allChunkMsgs (ps.map (·.bytes))).length < 65536) :
    (sendPages s.addr (ps.map (·.bytes))).runOn1 s = (.ok s.style, afterSend s ps) := by
  unfold sendPages
  rw [runOn1_bind (transfer_pixels s hi hst hw hh hsz ps hps hn 2)]
  have h5 : vstep (s.loaded ps .pixelsReceived) (.pixelsComplete s.addr) = .ok (afterSend s ps, none) := by
    simp only [vstep, VSign.loaded, afterSend, and_self, ↓reduceIte]
    cases s.style <;> rfl
  rw [runOn1_expect h5]
  have h6 : vstep (afterSend s ps) (.queryState s.addr) =
      .ok (afterSend s ps, some (.reportState s.addr (afterSend s ps).state)) := by
    simp only [vstep, afterSend, VSign.loaded, ↓reduceIte]
    cases s.style <;> rfl
  rw [runOn1_send h6]
  cases hs : s.style <;> simp [afterSend, VSign.loaded, hs, Prog.runOn1]

/-- Sending any list of pages of the sign's size to a configured (or page-holding) sign succeeds,
    the sign then holds exactly those pages in order with identical bytes, is in the page-loaded /
    showing-pages state, and the call reports the matching flip style. -/
theorem send_pages_exact (pre post : List VSign) (s : VSign) (hi : s.Inv)
    (hst : VSign.canReceivePixels s.state = true)
    (hw : 0 < s.w) (hh : 0 < s.h) (hsz : totalBytes s.w s.h ≤ 65536)
    (ps : List Page) (hps : ∀ p ∈ ps, p.w = s.w ∧ p.h = s.h ∧ p.WF)
    (hn : (allChunkMsgs (ps.map (·.bytes))).length < 65536)
    (hpre : Others s.addr pre) (hpost : Others s.addr post) :
    (sendPages s.addr (ps.map (·.bytes))).runOn (pre ++ s :: post) =
      (.ok s.style, pre ++ afterSend s ps :: post) := by
  rw [runOn_focus s.addr pre post _ s hpre hpost (ctrl_sendPages s.addr _).ctrlMsgs,
    sendPages_runOn1 s hi hst hw hh hsz ps hps hn]

theorem afterSend_fields (s : VSign) (ps : List Page) :
    (afterSend s ps).pages = ps ∧
    (afterSend s ps).state = (match s.style with | .automatic => .showingPages | .manual => .pageLoaded) ∧
    (afterSend s ps).signType = s.signType ∧ (afterSend s ps).addr = s.addr ∧
    (afterSend s ps).style = s.style ∧ (afterSend s ps).w = s.w ∧ (afterSend s ps).h = s.h :=
  ⟨rfl, rfl, rfl, rfl, rfl, rfl, rfl⟩

/-- From any prior state: configure, then send pages of the type's size — the composite the
    property states. -/
theorem configure_then_send (s : VSign) (hi : s.Inv) (t : SignType) (ps : List Page)
    (hps : ∀ p ∈ ps, p.w = t.dims.1 ∧ p.h = t.dims.2 ∧ p.WF)
    (hn : (allChunkMsgs (ps.map (·.bytes))).length < 65536) :
    ∃ s1 s2, (configure s.addr t).runOn [s] = (.ok (), [s1]) ∧
      (sendPages s.addr (ps.map (·.bytes))).runOn [s1] = (.ok s.style, [s2]) ∧
      s2.pages = ps ∧ s2.signType = some t ∧
      s2.state = (match s.style with | .automatic => .showingPages | .manual => .pageLoaded) := by
  obtain ⟨d1, d2, d3⟩ := dims_ok t
  exact ⟨_, _, configure_clean [] [] s t hi (.nil _) (.nil _),
    send_pages_exact [] [] (VSign.configured s.addr s.style t) (VSign.inv_configured _ _ t) rfl d1 d2 d3 ps hps hn
      (.nil _) (.nil _),
    rfl, rfl, rfl⟩

/-- Manual sign, page loaded: `show_loaded_page` succeeds and the sign ends up 'page shown'. -/
theorem show_manual (s : VSign) (hs : s.state = .pageLoaded) (fuel : Nat) (hf : 3 ≤ fuel) :
    (showLoadedPage s.addr fuel).runOn1 s = (.ok (), { s with state := .pageShown }) := by
  obtain ⟨f, rfl⟩ : ∃ f, fuel = f + 3 := ⟨fuel - 3, by omega⟩
  -- the run, evaluated: the first poll reports 'page loaded', so the request goes out and is acknowledged; the
  -- second reports 'show in progress', which is thereby over; the third reports 'page shown'
  simp [showLoadedPage, switchPage, Prog.runOn1, vstep, VSign.queryState, hs, ownReport?, expect]

/-- Manual sign, page shown: `load_next_page` succeeds and the sign ends up 'page loaded'. -/
theorem load_manual (s : VSign) (hs : s.state = .pageShown) (fuel : Nat) (hf : 3 ≤ fuel) :
    (loadNextPage s.addr fuel).runOn1 s = (.ok (), { s with state := .pageLoaded }) := by
  obtain ⟨f, rfl⟩ : ∃ f, fuel = f + 3 := ⟨fuel - 3, by omega⟩
  -- as in `show_manual`: 'page shown', request and acknowledgement; 'load in progress'; 'page loaded'
  simp [loadNextPage, switchPage, Prog.runOn1, vstep, VSign.queryState, hs, ownReport?, expect]

/-- Automatic sign (showing pages): both calls succeed and change nothing. -/
theorem show_load_auto_noop (s : VSign) (hs : s.state = .showingPages) (fuel : Nat) (hf : 1 ≤ fuel) :
    (showLoadedPage s.addr fuel).runOn1 s = (.ok (), s) ∧
    (loadNextPage s.addr fuel).runOn1 s = (.ok (), s) := by
  obtain ⟨f, rfl⟩ : ∃ f, fuel = f + 1 := ⟨fuel - 1, by omega⟩
  -- the one poll reports 'showing pages', on which `switch_page` returns
  constructor <;>
    simp [showLoadedPage, loadNextPage, switchPage, Prog.runOn1, vstep, hs, ownReport?,
      VSign.queryState]

/-- If the sign does not report a ready-to-receive state, `configure_if_needed` is `configure`. -/
theorem configureIfNeeded_not_ready (s : VSign) (hi : s.Inv) (t : SignType)
    (h : s.state ∉ readyStates) :
    (configureIfNeeded s.addr t).runOn1 s = (.ok (), VSign.configured s.addr s.style t) := by
  have hq := C13.query_spec s _ (.inl rfl)
  unfold configureIfNeeded
  rw [runOn1_send hq]
  simp only [ownReport?, ↓reduceIte, h]
  exact configure_runOn1 _ (hi.vstep hq) t

/-- If it does report a ready state, the call succeeds at once: the sign keeps its pages, type and size
    and is still able to receive pages (by contract the controller trusts a sign that reports itself
    ready). -/
theorem configureIfNeeded_ready (s : VSign) (t : SignType) (h : s.state ∈ readyStates) :
    ∃ s', (configureIfNeeded s.addr t).runOn1 s = (.ok (), s') ∧
      VSign.canReceivePixels s'.state = true ∧ s'.pages = s.pages ∧ s'.signType = s.signType ∧
      s'.w = s.w ∧ s'.h = s.h := by
  refine ⟨{ s with state := C13.afterReport s.state }, ?_, ?_, rfl, rfl, rfl, rfl⟩
  · unfold configureIfNeeded
    rw [runOn1_send (C13.query_spec s _ (.inl rfl))]
    simp [ownReport?, h, Prog.runOn1]
  · simp only [readyStates, List.mem_cons, List.not_mem_nil, or_false] at h
    rcases h with h | h | h | h | h | h <;> simp [h, C13.afterReport, VSign.canReceivePixels]

-- The hypotheses can be met: a fresh sign satisfies the invariant, and two pages of a real size make fewer
-- than 65536 chunks.
example : (VSign.new 3 .manual).Inv := VSign.inv_new 3 .manual
example : dims_ok .horizonFront160x16 = dims_ok .horizonFront160x16 := rfl
example : (allChunkMsgs ([Page.new 1 90 7, Page.new 2 90 7].map (·.bytes))).length < 65536 := by
  decide +kernel

end Flipdot.C08
