/-
C17 (continued) — transparency of every controller operation, with no side condition.
-/
import Flipdot.Lemmas.Transparent
import Flipdot.Props.C08
namespace Flipdot.C17

theorem configure_transparent (a : UInt16) (t : SignType) (bus : List VSign) :
    Transparent (configure a t) bus :=
  op_transparent a _ (ctrl_configure a t).ctrlOp (configure_quiet a t) bus

theorem configureIfNeeded_transparent (a : UInt16) (t : SignType) (bus : List VSign) :
    Transparent (configureIfNeeded a t) bus :=
  op_transparent a _ (ctrl_configureIfNeeded a t).ctrlOp (configureIfNeeded_quiet a t) bus

theorem sendPages_transparent (a : UInt16) (pages : List (List UInt8)) (bus : List VSign) :
    Transparent (sendPages a pages) bus :=
  op_transparent a _ (ctrl_sendPages a pages).ctrlOp (sendPages_quiet a pages) bus

theorem showLoadedPage_transparent (a : UInt16) (fuel : Nat) (bus : List VSign) :
    Transparent (showLoadedPage a (fuel + 1)) bus :=
  op_transparent a _ (ctrl_switchPage a _ _ _ _).ctrlOp (switchPage_quiet a _ _ _ fuel) bus

theorem loadNextPage_transparent (a : UInt16) (fuel : Nat) (bus : List VSign) :
    Transparent (loadNextPage a (fuel + 1)) bus :=
  op_transparent a _ (ctrl_switchPage a _ _ _ _).ctrlOp (switchPage_quiet a _ _ _ fuel) bus

theorem shutDown_transparent (a : UInt16) (bus : List VSign) : Transparent (shutDown a) bus :=
  silent_transparent _ (canonical_of_ctrl (ctrl_shutDown a)) (.send _ _ rfl fun r => by split <;> constructor) bus

/-- Sequences of operations: transparency composes, because each operation starts from the same
    virtual signs and an empty pipe on both paths. -/
theorem two_ops_transparent {α β : Type} (p : Prog α) (q : Prog β) (bus : List VSign)
    (hp : Transparent p bus) (hq : ∀ b, Transparent q b) :
    (q.runVia (p.runVia ⟨bus, []⟩).2).2.bus = (q.runOn (p.runOn bus).2).2 := by
  obtain ⟨_, hb, hpend⟩ := hp
  have e : (p.runVia ⟨bus, []⟩).2 = ⟨(p.runOn bus).2, []⟩ := by
    cases hf : (p.runVia ⟨bus, []⟩).2
    simp_all
  rw [e]
  exact (hq _).2.1

-- The direct run the theorems compare with, on a one-sign bus: `configure` succeeds.
example : ((configure 3 .max3000Dash30x7).runOn [VSign.new 3 .manual]).1 = .ok () := by
  exact congrArg Prod.fst
    (C08.configure_clean [] [] (VSign.new 3 .manual) .max3000Dash30x7 (VSign.inv_new 3 .manual) (.nil _) (.nil _))

end Flipdot.C17
