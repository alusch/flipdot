/-
C03 — Frame decoder is total, strict and agrees with an independent Intel-HEX parser.
The independent parser of the title is the model decoder itself (Model/Frame.lean: a hand parser, no `regex`);
that the crate's `from_bytes` agrees with it is tested (the C03 correspondence run), no theorem of this file.
Proved here, of the model: which strings are accepted and how the others are classified, against `Shape`
(Lemmas/Decode.lean), the documented textual form stated declaratively; and, with `upper` and two lemmas on it,
that re-encoding what was accepted gives back its digits in upper case (`reenc`).
-/
import Flipdot.Lemmas.Decode
namespace Flipdot.C03

/-- For well-shaped strings the order of the tests is: declared length against the actual number
    of data bytes first (reporting both), then the checksum (reporting declared and computed). -/
theorem dec_of_shape (bs : List UInt8) (h : Shape bs) :
    ∃ len ah al ty data ck, numsOf bs = some (len :: ah :: al :: ty :: (data ++ [ck])) ∧
      dec bs =
        if data.length ≠ len.toNat then .error (.mismatch len.toNat data.length)
        else if lrc (len :: ah :: al :: ty :: data) ≠ ck then
          .error (.badsum ck (lrc (len :: ah :: al :: ty :: data)))
        else .ok ⟨ah.toUInt16 * 256 + al.toUInt16, ty, data⟩ := by
  obtain ⟨nums, hn, hl⟩ := (shape_iff bs).mp h
  obtain ⟨len, ah, al, ty, data, ck, rfl⟩ := nums_split nums hl
  exact ⟨len, ah, al, ty, data, ck, hn, dec_of_nums hn⟩

/-- Malformed text — and nothing else — is reported as `InvalidFrame`: exactly the strings that are
    not ':' + an even number >= 10 of hex digits (either case) + optional single CR LF. -/
theorem dec_err_invalid_iff (bs : List UInt8) : dec bs = .error .invalid ↔ ¬ Shape bs := by
  constructor
  · intro hd hs
    obtain ⟨len, ah, al, ty, data, ck, _, hdec⟩ := dec_of_shape bs hs
    rw [hdec] at hd
    split at hd
    · cases hd
    · split at hd <;> cases hd
  · intro hs
    rw [dec_eq]
    cases hn : numsOf bs with
    | none => rfl
    | some nums =>
      exact checkBytes_short nums (Nat.lt_of_not_le fun hl => hs ((shape_iff bs).mpr ⟨nums, hn, hl⟩))

theorem shape_of_not_invalid (bs : List UInt8) (h : dec bs ≠ .error .invalid) : Shape bs :=
  Classical.byContradiction fun hns => h ((dec_err_invalid_iff bs).mpr hns)

/-- Decoding is total and every rejection is one of exactly three kinds (the data-too-long error
    of `Data::try_new` can never come out of the decoder: the length field is one byte). -/
theorem dec_classified (bs : List UInt8) :
    (∃ f, dec bs = .ok f) ∨ dec bs = .error .invalid ∨ (∃ e a, dec bs = .error (.mismatch e a)) ∨
      (∃ e a, dec bs = .error (.badsum e a)) := by
  by_cases hs : Shape bs
  · obtain ⟨len, ah, al, ty, data, ck, _, hdec⟩ := dec_of_shape bs hs
    rw [hdec]
    split
    · exact .inr (.inr (.inl ⟨_, _, rfl⟩))
    · split
      · exact .inr (.inr (.inr ⟨_, _, rfl⟩))
      · exact .inl ⟨_, rfl⟩
  · exact .inr (.inl ((dec_err_invalid_iff bs).mpr hs))

/-- Length mismatch: well-shaped, and the declared count differs from the actual one; the error
    reports exactly those two numbers. -/
theorem dec_err_mismatch_iff (bs : List UInt8) (e a : Nat) :
    dec bs = .error (.mismatch e a) ↔
      ∃ len ah al ty data ck, numsOf bs = some (len :: ah :: al :: ty :: (data ++ [ck])) ∧
        e = len.toNat ∧ a = data.length ∧ a ≠ e := by
  constructor
  · intro hd
    have hs : Shape bs := shape_of_not_invalid bs (by rw [hd]; simp)
    obtain ⟨len, ah, al, ty, data, ck, hn, hdec⟩ := dec_of_shape bs hs
    refine ⟨len, ah, al, ty, data, ck, hn, ?_⟩
    rw [hdec] at hd
    split at hd
    · rename_i hne; cases hd; exact ⟨rfl, rfl, hne⟩
    · split at hd <;> cases hd
  · rintro ⟨len, ah, al, ty, data, ck, hn, rfl, rfl, hne⟩
    rw [dec_of_nums hn]
    simp [hne]

/-- Bad checksum: well-shaped, lengths agree, and the declared checksum differs from the computed
    one; the error reports declared and computed values. -/
theorem dec_err_badsum_iff (bs : List UInt8) (e a : UInt8) :
    dec bs = .error (.badsum e a) ↔
      ∃ len ah al ty data, numsOf bs = some (len :: ah :: al :: ty :: (data ++ [e])) ∧
        data.length = len.toNat ∧ a = lrc (len :: ah :: al :: ty :: data) ∧ a ≠ e := by
  constructor
  · intro hd
    have hs : Shape bs := shape_of_not_invalid bs (by rw [hd]; simp)
    obtain ⟨len, ah, al, ty, data, ck, hn, hdec⟩ := dec_of_shape bs hs
    rw [hdec] at hd
    split at hd
    · cases hd
    · rename_i hl
      split at hd
      · rename_i hne; cases hd
        exact ⟨len, ah, al, ty, data, hn, by simpa using hl, rfl, hne⟩
      · cases hd
  · rintro ⟨len, ah, al, ty, data, hn, hl, rfl, hne⟩
    rw [dec_of_nums hn]
    simp [hl, hne]

/-- Acceptance: exactly the well-shaped strings whose numeric fields are the frame's payload
    followed by the right checksum. -/
theorem dec_ok_iff (bs : List UInt8) (f : Frame) :
    dec bs = .ok f ↔ numsOf bs = some (payload f ++ [lrc (payload f)]) ∧ f.WF :=
  ⟨accepted bs f, fun ⟨hn, hw⟩ => dec_ok_of_numsOf hn hw⟩

/-- Upper-case an ASCII hex digit. -/
def upper (c : UInt8) : UInt8 := if 97 ≤ c ∧ c ≤ 102 then c - 32 else c

theorem hexVal_upper {a x : UInt8} (h : hexVal? a = some x) : x < 16 ∧ hexDigit x = upper a := by
  -- stated with `∈` so that `decide` can run through the bytes `a`
  have : ∀ a : UInt8, ∀ x ∈ hexVal? a, x < 16 ∧ hexDigit x = upper a := by
    apply UInt8.forall_of_fin; decide +kernel
  exact this a x h

theorem hexUpper_of_hexPairs {ds nums : List UInt8} (h : hexPairs ds = some nums) :
    hexUpper nums = ds.map upper := by
  fun_induction hexPairs ds generalizing nums with
  | case1 => cases h; rfl
  | case2 c => cases h
  | case3 a b rest x y r hr hb ha ih =>
    cases h
    obtain ⟨hx, ex⟩ := hexVal_upper ha
    obtain ⟨hy, ey⟩ := hexVal_upper hb
    simp [hexUpper, hexByte_join hx hy, ex, ey, ih hr]
  | case4 => cases h

/-- An accepted string is ':' + digits + optional CR LF, and re-encoding the decoded frame gives
    ':' + the same digits in upper case. -/
theorem reenc (bs : List UInt8) (f : Frame) (h : dec bs = .ok f) :
    ∃ digits term, bs = 58 :: (digits ++ term) ∧ (term = [] ∨ term = [13, 10]) ∧
      enc f = 58 :: digits.map upper := by
  obtain ⟨D, nl, rfl, hD⟩ := dec_ok_digits h
  exact ⟨D, _, rfl, term_cases nl, congrArg (58 :: ·) (hexUpper_of_hexPairs hD)⟩

-- Non-vacuity and the documented examples.
example : Shape [58, 48, 50, 48, 48, 48, 50, 48, 49, 48, 51, 49, 70, 68, 57] :=
  ⟨[48, 50, 48, 48, 48, 50, 48, 49, 48, 51, 49, 70, 68, 57], [], rfl, .inl rfl, by decide, by decide, by decide⟩
example : dec [58, 48, 49] = .error .invalid := by decide
example : dec [58, 48, 48, 48, 48, 55, 70, 48, 50, 48, 48, 55, 70] = .error (.mismatch 0 1) := by decide +kernel
example : dec [58, 48, 49, 48, 48, 55, 70, 48, 50, 70, 70, 55, 69] = .error (.badsum 0x7E 0x7F) := by decide +kernel

end Flipdot.C03
