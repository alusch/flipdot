/-
C17 (continued) — the end-to-end path of Model/Pipe.lean (`viaSerial`) is the composition of the two component
models: what the controller gets back for a message is exactly what `serialStep` (the model of
`SerialSignBus::process_message`, tied to the source by Tie/SerialBus.lean) returns on a port whose write side accepts
everything and whose read side offers what the bridge (`odkStep`, tied likewise) has written back so far.
So the transparency theorems of C17.lean / C17_ops.lean are statements about those two methods composed through a
byte pipe, not about a third, separately written path.
-/
import Flipdot.Props.C17
import Flipdot.Props.C16
namespace Flipdot.C17

/-- A bus result as the controller sees it. -/
def toReply : BusResult → Reply
  | .ok r => .ok r
  | .err => .busError

theorem remainingBytes_byteEvents (l : List UInt8) : remainingBytes (byteEvents l) = l :=
  (C15.bytesOf_eq_remainingBytes _).symm.trans (bytesOf_byteEvents l)

/-- One message through the whole path = the bridge's step on the written line, then the serial bus's own step
    reading from what the bridge wrote back (after whatever was still pending). -/
theorem viaSerial_compose (far : Far) (m : Msg) :
    viaSerial far m =
      match odkStep far.bus { rd := byteEvents (encNL (toFrame m)), wr := [] } with
      | .error e => .error e
      | .ok (_, written, bus', _) =>
        let s := serialStep m { rd := byteEvents (far.pending ++ written), wr := [] }
        .ok (toReply s.2.1, ⟨bus', remainingBytes s.2.2.rd⟩) := by
  unfold viaSerial
  dsimp only
  generalize odkStep far.bus { rd := byteEvents (encNL (toFrame m)), wr := [] } = r
  cases r with
  | error e => rfl
  | ok r =>
    obtain ⟨res, written, bus', p'⟩ := r
    cases he : responseExpected m
    · obtain ⟨h1, h2⟩ := C16.no_read_otherwise m ⟨byteEvents (far.pending ++ written), []⟩ rfl he
      simp [h1, h2, toReply, remainingBytes_byteEvents]
    · obtain ⟨h1, h2⟩ := C16.reply_is_decoded m ⟨byteEvents (far.pending ++ written), []⟩ rfl he
      simp only [h1, h2, ↓reduceIte]
      cases (frameRead (byteEvents (far.pending ++ written))).1 <;> rfl

/-- … and the serial bus wrote exactly the line the bridge read. -/
theorem viaSerial_wrote (m : Msg) (rd : List REvent) :
    (serialStep m { rd := rd, wr := [] }).1.head? = some (.wrote (encNL (toFrame m)) true) := by
  rw [C16.events_shape]; rfl

end Flipdot.C17
