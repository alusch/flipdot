/-
C13 — Virtual sign implements the sign-side protocol state machine.
The machine's tables (`legal`, `target`, `afterReport`, `closeGroup`) are in Spec/SignSide.lean.  Defined here:
`specStep`, the reply and next state the tables prescribe for one message; `sendAll`, a run of data chunks
delivered to one sign; `assemble`, the pages such a run stores, computed from the chunk log alone.
-/
import Flipdot.Lemmas.VSign
import Flipdot.Props.C12
namespace Flipdot.C13

/-- Hello / query: the sign answers with its current state; in-progress states then complete;
    nothing else changes. -/
theorem query_spec (s : VSign) (m : Msg) (hm : m = .hello s.addr ∨ m = .queryState s.addr) :
    vstep s m = .ok ({ s with state := afterReport s.state }, some (.reportState s.addr s.state)) := by
  rcases hm with rfl | rfl <;> simp only [vstep, ↓reduceIte, VSign.queryState_eq]

/-- An operation request to the sign's own address is acknowledged exactly in the states where
    the operation is legal, and then leads to the operation's target state. -/
theorem request_legal (s : VSign) (op : Op) (h : legal op s.state = true) :
    ∃ s', vstep s (.requestOp s.addr op) = .ok (s', some (.ackOp s.addr op)) ∧
      s'.state = target op ∧ s'.addr = s.addr ∧ s'.style = s.style :=
  ⟨s.accept op, vstep_request_legal h, s.accept_fields op⟩

/-- ... and otherwise the sign stays silent and completely unchanged. -/
theorem request_illegal (s : VSign) (op : Op) (h : legal op s.state = false) :
    vstep s (.requestOp s.addr op) = .ok (s, none) := by
  rw [vstep_request, h]; rfl

/-- Accepting `ReceivePixels` discards the pages stored so far. -/
theorem receivePixels_clears (s : VSign) (h : legal .receivePixels s.state = true) :
    ∃ s', vstep s (.requestOp s.addr .receivePixels) = .ok (s', some (.ackOp s.addr .receivePixels)) ∧
      s'.pages = [] :=
  ⟨_, vstep_request_legal h, rfl⟩

/-- An accepted `FinishReset` returns the sign to the blank unconfigured condition it was created in … -/
theorem reset_blank (s : VSign) (h : s.state = .readyToReset) :
    vstep s (.requestOp s.addr .finishReset) =
      .ok (VSign.new s.addr s.style, some (.ackOp s.addr .finishReset)) :=
  vstep_request_legal (by rw [h]; rfl)

/-- … and so does `Goodbye`, in any state. -/
theorem goodbye_blank (s : VSign) :
    vstep s (.goodbye s.addr) = .ok (VSign.new s.addr s.style, none) := by
  simp [vstep, VSign.reset, VSign.new]

/-- Messages addressed to another sign (reports and acknowledgements among them) leave it silent and
    unchanged. -/
theorem foreign_silent (s : VSign) (m : Msg) (a : UInt16) (ha : m.addr? = some a) (hne : a ≠ s.addr) :
    vstep s m = .ok (s, none) := by
  cases m <;> simp only [Msg.addr?, Option.some.injEq, reduceCtorEq] at ha <;> subst ha <;>
    simp [vstep, hne]

/-- Announcing the chunk count: a receiving sign moves to 'received' exactly when the announced
    count equals the number of chunks it accepted, and to 'failed' otherwise. -/
theorem count_spec (s : VSign) (n : UInt16) :
    (s.state = .pixelsInProgress →
      (s.chunksSent n).state = (if s.chunks = n.toNat then .pixelsReceived else .pixelsFailed)) ∧
    (s.state = .configInProgress →
      (s.chunksSent n).state = (if s.chunks = n.toNat then .configReceived else .configFailed)) ∧
    (s.state ≠ .pixelsInProgress → s.state ≠ .configInProgress → (s.chunksSent n).state = s.state) := by
  rw [VSign.chunksSent_eq]
  refine ⟨fun h => ?_, fun h => ?_,
    fun h1 h2 => State.afterCount_idle (State.receiving_false.mpr ⟨h2, h1⟩) _⟩ <;> simp [h, State.afterCount]

/-- The counter counts accepted pixel chunks one by one (saturating far above any 16-bit
    announced value, so an overlong transfer can never match). -/
theorem pixel_chunk_counted (s s' : VSign) (off : UInt16) (d : List UInt8)
    (hs : s.state = .pixelsInProgress) (h : s.sendData off d = .ok s') :
    s'.chunks = satSucc s.chunks ∧ s'.state = .pixelsInProgress := by
  rw [VSign.sendData_pixels s off d hs] at h
  cases h
  split <;> simp [VSign.appendChunk, VSign.flush_eq, hs]

/-- After `k` accepted chunks the announced count `n` matches iff `k = n` (for every `k`,
    including `k ≥ 65536`). -/
theorem announce_matches_iff (k : Nat) (n : UInt16) : min k 4294967295 = n.toNat ↔ k = n.toNat := by
  have := n.toNat_lt
  omega

/-- The pages a pixel transfer stores: chunks are concatenated in arrival order; a chunk at
    offset 0 starts a new page; the final group is closed by the chunk count. -/
def assemble (w h : Nat) : List Page → List UInt8 → List (UInt16 × List UInt8) → List Page
  | pages, cur, [] => closeGroup w h pages cur
  | pages, cur, (off, d) :: rest =>
    if off = 0 then assemble w h (closeGroup w h pages cur) d rest
    else assemble w h pages (cur ++ d) rest

/-- Deliver data chunks one after another. -/
def sendAll (s : VSign) : List (UInt16 × List UInt8) → Except Panic VSign
  | [] => .ok s
  | (off, d) :: rest =>
    match s.sendData off d with
    | .error e => .error e
    | .ok s' => sendAll s' rest

/-- A run of data chunks into a sign receiving pixels touches only the stored pages, the buffer and
    the counter; closing the buffer then gives `assemble` of the chunk log, and the counter has
    counted every chunk (saturating; `chunks` is a `Nat` in the model, and the last disjunct covers the
    values no `u32` has). -/
theorem sendAll_pixels (s : VSign) (cs : List (UInt16 × List UInt8)) (hs : s.state = .pixelsInProgress) :
    ∃ P Q c, sendAll s cs = .ok { s with pages := P, pending := Q, chunks := c } ∧
      closeGroup s.w s.h P Q = assemble s.w s.h s.pages s.pending cs ∧
      (c = min (s.chunks + cs.length) 4294967295 ∨ 4294967295 < s.chunks) := by
  induction cs generalizing s with
  | nil => exact ⟨_, _, _, rfl, rfl, by simp; omega⟩
  | cons c cs ih =>
    obtain ⟨off, d⟩ := c
    have count : ∀ {k : Nat}, (k = min (satSucc s.chunks + cs.length) 4294967295 ∨ 4294967295 < satSucc s.chunks) →
        k = min (s.chunks + (cs.length + 1)) 4294967295 ∨ 4294967295 < s.chunks := fun h => by
      unfold satSucc at h; split at h <;> omega
    simp only [sendAll, VSign.sendData_pixels s off d hs, assemble, List.length_cons]
    split
    · have := ih (s.flush.appendChunk d) (by rw [VSign.flush_eq]; exact hs)
      rw [VSign.flush_eq] at this ⊢
      obtain ⟨P, Q, k, h1, h2, h3⟩ := this
      exact ⟨P, Q, k, h1, h2, count h3⟩
    · obtain ⟨P, Q, k, h1, h2, h3⟩ := ih (s.appendChunk d) hs
      exact ⟨P, Q, k, h1, h2, count h3⟩

/-- After any `k` chunks the counter holds `min k (2^32 - 1)`: it counts accepted chunks exactly,
    far beyond the 16-bit range of an announced count. -/
theorem chunks_after_sendAll (s s' : VSign) (cs : List (UInt16 × List UInt8))
    (hs : s.state = .pixelsInProgress) (h : sendAll s cs = .ok s') :
    s'.chunks = min (s.chunks + cs.length) 4294967295 ∨ 4294967295 < s.chunks := by
  obtain ⟨P, Q, c, h', _, hc⟩ := sendAll_pixels s cs hs
  cases h.symm.trans h'
  exact hc

/-- For every sequence of chunks (any offsets, any lengths, lost / short / extra chunks included)
    followed by the chunk count: the stored pages are exactly `assemble` of the chunk log. -/
theorem pages_assembled (s : VSign) (cs : List (UInt16 × List UInt8)) (n : UInt16)
    (hs : s.state = .pixelsInProgress) :
    ∃ s', sendAll s cs = .ok s' ∧
      (s'.chunksSent n).pages = assemble s.w s.h s.pages s.pending cs ∧
      (s'.chunksSent n).pending = [] ∧ s'.w = s.w ∧ s'.h = s.h := by
  obtain ⟨P, Q, c, h, ha, _⟩ := sendAll_pixels s cs hs
  exact ⟨_, h, by rw [VSign.chunksSent_eq]; exact ha, by rw [VSign.chunksSent_eq], rfl, rfl⟩

/-- Whatever the history, every stored page is a complete page of the configured size, nothing is
    buffered or counted outside a transfer, and a sign in a configuration phase stores no pages. -/
theorem reachable_inv (s : VSign) (h : s.Reachable) :
    (∀ p ∈ s.pages, p.w = s.w ∧ p.h = s.h ∧ p.bytes.length = totalBytes s.w s.h) ∧
    (s.state.receiving = false → s.chunks = 0 ∧ s.pending = []) ∧
    (s.state.configPhase = true → s.pages = []) :=
  ⟨fun p hp => have ⟨pw, ph, pwf⟩ := h.inv.pagesOK p hp; ⟨pw, ph, pw ▸ ph ▸ pwf⟩,
    h.inv.idle, h.inv.noPages⟩

/-- Reply and next state prescribed by the documented sign-side machine (legality table `legal`,
    targets `target`, report-once completion `afterReport`, count comparison, style-dependent
    completion, reset / goodbye). -/
def specStep (s : VSign) (m : Msg) : Option Msg × State :=
  match m with
  | .hello a | .queryState a =>
    if a = s.addr then (some (.reportState s.addr s.state), afterReport s.state) else (none, s.state)
  | .requestOp a op =>
    if a = s.addr ∧ legal op s.state = true then (some (.ackOp s.addr op), target op) else (none, s.state)
  | .chunksSent n =>
    (none, match s.state with
      | .pixelsInProgress => if s.chunks = n.toNat then .pixelsReceived else .pixelsFailed
      | .configInProgress => if s.chunks = n.toNat then .configReceived else .configFailed
      | st => st)
  | .pixelsComplete a =>
    (none, if a = s.addr ∧ s.state = .pixelsReceived then
        (match s.style with | .automatic => .showingPages | .manual => .pageLoaded)
      else s.state)
  | .goodbye a => (none, if a = s.addr then .unconfigured else s.state)
  | _ => (none, s.state)

/-- For every sign state and every message, the virtual sign's reply and reported state are those
    of the documented machine; by induction the same holds along every message history. -/
theorem step_refines (s : VSign) (m : Msg) :
    ∃ s', vstep s m = .ok (s', (specStep s m).1) ∧ s'.state = (specStep s m).2 := by
  cases m with
  | hello a | queryState a =>
    simp only [vstep, specStep, VSign.queryState_eq]
    by_cases ha : a = s.addr <;> simp only [ha, ↓reduceIte] <;> exact ⟨_, rfl, rfl⟩
  | requestOp a op =>
    by_cases ha : a = s.addr
    · subst ha
      simp only [vstep_request, specStep, true_and]
      split <;> exact ⟨_, rfl, by first | rfl | exact (s.accept_fields op).1⟩
    · simp only [specStep, ha, false_and, ↓reduceIte]
      exact ⟨s, foreign_silent s (.requestOp a op) a rfl ha, rfl⟩
  | chunksSent n =>
    refine ⟨s.chunksSent n, rfl, ?_⟩
    obtain ⟨h1, h2, h3⟩ := count_spec s n
    simp only [specStep]
    split
    · rename_i hs; exact h1 hs
    · rename_i hs; exact h2 hs
    · rename_i hp hc; exact h3 hp hc
  | pixelsComplete a | goodbye a =>
    simp only [vstep, specStep]
    split <;> exact ⟨_, rfl, rfl⟩
  | sendData off d =>
    obtain ⟨s', hs'⟩ := C12.sendData_no_panic s off d
    exact ⟨s', vstep_data hs', (VSign.sendData_addr_state hs').2⟩
  | reportState | ackOp | unknown => exact ⟨s, rfl, rfl⟩

example : (VSign.new 3 .manual).Reachable := .init 3 .manual
example : legal .receiveConfig (VSign.new 3 .manual).state = true := by decide
example : assemble 2 8 [] [] [(0, List.replicate 16 1), (0, List.replicate 16 2)] =
    [⟨2, 8, List.replicate 16 1⟩, ⟨2, 8, List.replicate 16 2⟩] := by decide

end Flipdot.C13
