/-
C10 — Controller follows the documented protocol for every possible sign reply.
The protocol itself is stated in Flipdot/Spec/CtrlProtocol.lean as relations on conversations
(`*_follows_protocol`; the converse is in C10_exact.lean and C10_switch.lean).  `*_class`: what is sent and
returned depends only on the class of each reply (`classify`, Lemmas/Prog.lean), as for every `Ctrl` tree
(Lemmas/CtrlTree.lean).
-/
import Flipdot.Lemmas.CtrlConv
import Flipdot.Lemmas.CtrlTree
namespace Flipdot.C10

/-! Every conversation — for every reply script, of any length, with any replies (all 65 536
    addresses, arbitrary unknown frames, data, bus errors) — is one the documented protocol
    prescribes, with the prescribed outcome. -/

theorem configure_follows_protocol (a : UInt16) (t : SignType) (script : List Reply) :
    ConfigureSpec a t ((configure a t).run script).1 ((configure a t).run script).2 :=
  (configure_refines a t).run script

theorem configureIfNeeded_follows_protocol (a : UInt16) (t : SignType) (script : List Reply) :
    ConfigureIfNeededSpec a t ((configureIfNeeded a t).run script).1 ((configureIfNeeded a t).run script).2 :=
  (configureIfNeeded_refines a t).run script

theorem sendPages_follows_protocol (a : UInt16) (pages : List (List UInt8)) (script : List Reply)
    (h : (allChunkMsgs pages).length < 65536) :
    SendPagesSpec a pages ((sendPages a pages).run script).1 ((sendPages a pages).run script).2 :=
  (sendPages_refines a pages h).run script

theorem showLoadedPage_follows_protocol (a : UInt16) (fuel : Nat) (script : List Reply) :
    SwitchSpec a .pageShown .pageLoaded .showLoadedPage
      ((showLoadedPage a fuel).run script).1 ((showLoadedPage a fuel).run script).2 :=
  (switchPage_refines a _ _ _ fuel).run script

theorem loadNextPage_follows_protocol (a : UInt16) (fuel : Nat) (script : List Reply) :
    SwitchSpec a .pageLoaded .pageShown .loadNextPage
      ((loadNextPage a fuel).run script).1 ((loadNextPage a fuel).run script).2 :=
  (switchPage_refines a _ _ _ fuel).run script

theorem shutDown_follows_protocol (a : UInt16) (script : List Reply) :
    ShutDownSpec a ((shutDown a).run script).1 ((shutDown a).run script).2 :=
  (shutDown_refines a).run script

/-- The polling loop's fuel (the one place the model needs a bound) never decides an outcome:
    with more fuel than replies the result is never `outOfFuel` — the correspondence runs use
    `script.length + 1`. -/
theorem polling_fuel_never_binds (a : UInt16) (script : List Reply) :
    ((showLoadedPage a (script.length + 1)).run script).2 ≠ .outOfFuel ∧
    ((loadNextPage a (script.length + 1)).run script).2 ≠ .outOfFuel :=
  ⟨switch_fuel_enough a _ _ _ _ script (by omega), switch_fuel_enough a _ _ _ _ script (by omega)⟩

/-! What the controller sends and returns depends only on the *class* of each reply (own state
    report, own acknowledgement, silence, anything else, bus error).  The finite reply alphabet of
    the correspondence check contains every class, so these theorems extend its exhaustive
    enumeration to all replies. -/

theorem configure_class (a : UInt16) (t : SignType) (s s' : List Reply)
    (h : s.map (classify a) = s'.map (classify a)) :
    (configure a t).trace s = (configure a t).trace s' ∧
      ((configure a t).run s).2 = ((configure a t).run s').2 :=
  (ctrl_configure a t).run_eq s s' h

theorem configureIfNeeded_class (a : UInt16) (t : SignType) (s s' : List Reply)
    (h : s.map (classify a) = s'.map (classify a)) :
    (configureIfNeeded a t).trace s = (configureIfNeeded a t).trace s' ∧
      ((configureIfNeeded a t).run s).2 = ((configureIfNeeded a t).run s').2 :=
  (ctrl_configureIfNeeded a t).run_eq s s' h

theorem sendPages_class (a : UInt16) (pages : List (List UInt8)) (s s' : List Reply)
    (h : s.map (classify a) = s'.map (classify a)) :
    (sendPages a pages).trace s = (sendPages a pages).trace s' ∧
      ((sendPages a pages).run s).2 = ((sendPages a pages).run s').2 :=
  (ctrl_sendPages a pages).run_eq s s' h

theorem switchPage_class (a : UInt16) (target trigger : State) (op : Op) (fuel : Nat)
    (s s' : List Reply) (h : s.map (classify a) = s'.map (classify a)) :
    (switchPage a target trigger op fuel).trace s = (switchPage a target trigger op fuel).trace s' ∧
      ((switchPage a target trigger op fuel).run s).2 = ((switchPage a target trigger op fuel).run s').2 :=
  (ctrl_switchPage a target trigger op fuel).run_eq s s' h

theorem shutDown_class (a : UInt16) (s s' : List Reply)
    (h : s.map (classify a) = s'.map (classify a)) :
    (shutDown a).trace s = (shutDown a).trace s' ∧ ((shutDown a).run s).2 = ((shutDown a).run s').2 :=
  (ctrl_shutDown a).run_eq s s' h

/-- Any reply from another address, any unknown frame, any data message: all "unrelated". -/
theorem unrelated_examples (a a' : UInt16) (h : a' ≠ a) (s : State) (o : Op) (f : Frame) :
    classify a (.ok (some (.reportState a' s))) = .unrelated ∧
    classify a (.ok (some (.ackOp a' o))) = .unrelated ∧
    classify a (.ok (some (.unknown f))) = .unrelated ∧
    classify a (.ok (some (.hello a))) = .unrelated := by
  simp [classify, h]

-- Non-vacuity: the happy path of `configure` is in the spec and ends `ok`; a wrong acknowledgement
-- ends in a protocol error.
example : ((configure 3 .max3000Side90x7).run
    [.ok (some (.reportState 3 .unconfigured)), .ok (some (.ackOp 3 .receiveConfig)), .ok none, .ok none,
     .ok (some (.reportState 3 .configReceived))]).2 = .ok () := by decide
example : ((configure 3 .max3000Side90x7).run
    [.ok (some (.reportState 3 .unconfigured)), .ok (some (.ackOp 4 .receiveConfig))]).2 = .proto := by decide

end Flipdot.C10
