/-
C18, across calls: several exchanges on one bus object.  The property forbids the NEXT write within
30 ms of a data chunk's write and a return within 100 ms of an in-progress report; stated here on
`serialRun`, the event sequence of a whole run (the port is the only state the model's bus carries from one
exchange to the next).
-/
import Flipdot.Props.C18
namespace Flipdot.C18

/-- The port events of several `process_message` calls in a row on the same bus. -/
def serialRun : List Msg → Port → List PortEvent
  | [], _ => []
  | m :: ms, p => (serialStep m p).1 ++ serialRun ms (serialStep m p).2.2

/-- A data chunk whose write completes is followed by a 30 ms pause before anything else happens on the
    bus — in particular before the write of whatever message comes next. -/
theorem chunk_then_pause (off : UInt16) (d : List UInt8) (ms : List Msg) (p : Port)
    (hw : (frameWrite (toFrame (.sendData off d)) p.wr).1 = true) :
    serialRun (.sendData off d :: ms) p =
      .wrote (encNL (toFrame (.sendData off d))) true :: .sleep 30 ::
        serialRun ms (serialStep (.sendData off d) p).2.2 := by
  rw [serialRun, C16.events_shape, hw, (C15.write_only_the_encoding _ _).2 hw]; rfl

/-- A data chunk whose write fails is followed by no pause (and no read). -/
theorem failed_chunk_no_pause (off : UInt16) (d : List UInt8) (ms : List Msg) (p : Port)
    (hw : (frameWrite (toFrame (.sendData off d)) p.wr).1 = false) :
    ∃ bs, serialRun (.sendData off d :: ms) p =
      .wrote bs false :: serialRun ms (serialStep (.sendData off d) p).2.2 :=
  ⟨_, by rw [serialRun, C16.events_shape, hw]; rfl⟩

/-- An exchange whose reply is an in-progress report ends with a 100 ms wait; only then does the next
    exchange start. -/
theorem report_then_wait (m : Msg) (ms : List Msg) (p : Port) (f : Frame)
    (hw : (frameWrite (toFrame m) p.wr).1 = true) (he : responseExpected m = true)
    (hr : (frameRead p.rd).1 = .ok f)
    (hf : ∃ a, toMsg f = .reportState a .pageLoadInProgress ∨ toMsg f = .reportState a .pageShowInProgress) :
    serialRun (m :: ms) p =
      (.wrote (encNL (toFrame m)) true :: (sleepEv (delayAfterSend m) ++ [.readLine, .sleep 100])) ++
        serialRun ms (serialStep m p).2.2 := by
  obtain ⟨h1, h2, _⟩ := sleep_after_recv_iff m p f hw he hr
  rw [serialRun, h1, h2.2 hf]

/-- No other exchange waits: a message that is not a data chunk, answered by anything but an in-progress
    report (or not answered), contributes no `sleep` event at all. -/
theorem no_other_wait (m : Msg) (p : Port)
    (hm : ¬ ∃ off d, m = .sendData off d)
    (hr : ∀ f, (frameRead p.rd).1 = .ok f →
      ¬ ∃ a, toMsg f = .reportState a .pageLoadInProgress ∨ toMsg f = .reportState a .pageShowInProgress) :
    ∀ e ∈ (serialStep m p).1, ∀ n, e ≠ .sleep n := by
  rintro _ he n rfl
  obtain ⟨-, ⟨-, h⟩ | ⟨-, -, f, hf, h⟩⟩ := sleep_justified he
  · exact hm h
  · exact hr f hf h

-- Non-vacuity: a data chunk followed by the count announcement on a port that accepts everything.
example : serialRun [.sendData 0 [1, 2], .chunksSent 1] ⟨[], []⟩ =
    [.wrote (encNL (toFrame (.sendData 0 [1, 2]))) true, .sleep 30,
     .wrote (encNL (toFrame (.chunksSent 1))) true] := by decide

end Flipdot.C18
