/-
C11 — Controller: no unconfirmed success, fail-stop, bounded retries, own address only.
Invariants of every conversation, for every reply script.  Own address and fail-stop hold of every `Ctrl` tree
(Lemmas/CtrlTree.lean, with `OwnOrNone` and `requiredReply`); confirmation and retries are read off the
protocol relations (Lemmas/CtrlSpec.lean, with `AttemptShape` and `RetryShape`).
-/
import Flipdot.Lemmas.CtrlSpec
import Flipdot.Lemmas.CtrlTree
namespace Flipdot.C11

/-! ### Every addressed message carries the controller's own address -/

theorem configure_own_address (a : UInt16) (t : SignType) (script : List Reply) :
    ∀ e ∈ ((configure a t).run script).1, OwnOrNone a e.1 := (ctrl_configure a t).own_address script

theorem configureIfNeeded_own_address (a : UInt16) (t : SignType) (script : List Reply) :
    ∀ e ∈ ((configureIfNeeded a t).run script).1, OwnOrNone a e.1 :=
  (ctrl_configureIfNeeded a t).own_address script

theorem sendPages_own_address (a : UInt16) (pages : List (List UInt8)) (script : List Reply) :
    ∀ e ∈ ((sendPages a pages).run script).1, OwnOrNone a e.1 := (ctrl_sendPages a pages).own_address script

theorem switchPage_own_address (a : UInt16) (target trigger : State) (op : Op) (fuel : Nat)
    (script : List Reply) :
    ∀ e ∈ ((switchPage a target trigger op fuel).run script).1, OwnOrNone a e.1 :=
  (ctrl_switchPage a target trigger op fuel).own_address script

theorem shutDown_own_address (a : UInt16) (script : List Reply) :
    ∀ e ∈ ((shutDown a).run script).1, OwnOrNone a e.1 := (ctrl_shutDown a).own_address script

/-- Bus error: whatever the operation (any interaction tree at all), a bus error is the last
    thing in the conversation and the outcome is the bus error... -/
theorem bus_error_is_last {α : Type} (p : Prog α) (script : List Reply) (i : Nat) (m : Msg)
    (h : (p.run script).1[i]? = some (m, some .busError)) :
    i + 1 = (p.run script).1.length ∧ (p.run script).2 = .bus := (p.conv_of_run script).bus_error_last i m h

/-- ... and the bus error is returned only when one happened. -/
theorem bus_outcome_only_after_bus_error {α : Type} (p : Prog α) (script : List Reply)
    (h : (p.run script).2 = .bus) : ∃ m, (p.run script).1.getLast? = some (m, some .busError) :=
  (p.conv_of_run script).bus_outcome h

/-- A reply the protocol does not allow (request not acknowledged by the sign itself; anything but
    silence after data, count, pixels-complete, goodbye) ends the conversation with a protocol
    error: nothing further is sent. -/
theorem disallowed_reply_is_last_configure (a : UInt16) (t : SignType) (script : List Reply)
    (i : Nat) (m : Msg) (r w : Option Msg)
    (hi : ((configure a t).run script).1[i]? = some (m, some (.ok r)))
    (hw : requiredReply a m = some w) (hr : r ≠ w) :
    i + 1 = ((configure a t).run script).1.length ∧ ((configure a t).run script).2 = .proto :=
  (ctrl_configure a t).strict.conv (Prog.conv_of_run _ script) i m r w hi hw hr

theorem disallowed_reply_is_last_configureIfNeeded (a : UInt16) (t : SignType) (script : List Reply)
    (i : Nat) (m : Msg) (r w : Option Msg)
    (hi : ((configureIfNeeded a t).run script).1[i]? = some (m, some (.ok r)))
    (hw : requiredReply a m = some w) (hr : r ≠ w) :
    i + 1 = ((configureIfNeeded a t).run script).1.length ∧
      ((configureIfNeeded a t).run script).2 = .proto :=
  (ctrl_configureIfNeeded a t).strict.conv (Prog.conv_of_run _ script) i m r w hi hw hr

theorem disallowed_reply_is_last_sendPages (a : UInt16) (pages : List (List UInt8))
    (script : List Reply) (i : Nat) (m : Msg) (r w : Option Msg)
    (hi : ((sendPages a pages).run script).1[i]? = some (m, some (.ok r)))
    (hw : requiredReply a m = some w) (hr : r ≠ w) :
    i + 1 = ((sendPages a pages).run script).1.length ∧ ((sendPages a pages).run script).2 = .proto :=
  (ctrl_sendPages a pages).strict.conv (Prog.conv_of_run _ script) i m r w hi hw hr

theorem disallowed_reply_is_last_switchPage (a : UInt16) (target trigger : State) (op : Op)
    (fuel : Nat) (script : List Reply) (i : Nat) (m : Msg) (r w : Option Msg)
    (hi : ((switchPage a target trigger op fuel).run script).1[i]? = some (m, some (.ok r)))
    (hw : requiredReply a m = some w) (hr : r ≠ w) :
    i + 1 = ((switchPage a target trigger op fuel).run script).1.length ∧
      ((switchPage a target trigger op fuel).run script).2 = .proto :=
  (ctrl_switchPage a target trigger op fuel).strict.conv (Prog.conv_of_run _ script) i m r w hi hw hr

theorem disallowed_reply_is_last_shutDown (a : UInt16) (script : List Reply)
    (i : Nat) (m : Msg) (r w : Option Msg)
    (hi : ((shutDown a).run script).1[i]? = some (m, some (.ok r)))
    (hw : requiredReply a m = some w) (hr : r ≠ w) :
    i + 1 = ((shutDown a).run script).1.length ∧ ((shutDown a).run script).2 = .proto :=
  (ctrl_shutDown a).strict.conv (Prog.conv_of_run _ script) i m r w hi hw hr

/-- `configure` returns success only if the very last exchange is the state query answered by the
    sign's own address with 'config received'. -/
theorem configure_success_confirmed (a : UInt16) (t : SignType) (script : List Reply)
    (h : ((configure a t).run script).2 = .ok ()) :
    ((configure a t).run script).1.getLast? =
      some (ans (.queryState a) (some (.reportState a .configReceived))) := by
  have hs := (configure_refines a t).run script
  generalize ((configure a t).run script).1 = c at hs ⊢
  generalize ((configure a t).run script).2 = o at hs h
  cases hs with
  | ensureStop c o he =>
    subst h
    cases he with
    | finish c' o' hm => exact absurd rfl (hm.not_ok ())
    | full r c' o' _ _ hm => exact absurd rfl (hm.not_ok ())
  | transfer c1 c2 o _ ht =>
    have := ht.success_confirmed h
    rw [List.getLast?_append, this]; rfl

/-- `send_pages` returns success only if the transfer part of the conversation ended with the
    sign's own 'pixels received' report (followed only by pixels-complete and the style query). -/
theorem sendPages_success_confirmed (a : UInt16) (pages : List (List UInt8)) (script : List Reply)
    (hlen : (allChunkMsgs pages).length < 65536) (st : FlipStyle)
    (h : ((sendPages a pages).run script).2 = .ok st) :
    ∃ c1 r, ((sendPages a pages).run script).1 =
        c1 ++ [ans (.pixelsComplete a) none, ans (.queryState a) r] ∧
      c1.getLast? = some (ans (.queryState a) (some (.reportState a .pixelsReceived))) := by
  have hs := (sendPages_refines a pages hlen).run script
  generalize ((sendPages a pages).run script).1 = c at hs ⊢
  generalize ((sendPages a pages).run script).2 = o at hs h
  cases hs with
  | transferStop c o' hn ht => cases o' <;> cases h
  | completeStop c1 c2 o ht hstop => exact absurd h (hstop.not_ok st)
  | queryStarved c1 ht => cases h
  | queryBus c1 ht => cases h
  | automatic c1 ht => exact ⟨c1, _, rfl, ht.success_confirmed rfl⟩
  | manual c1 r _ ht => exact ⟨c1, r, rfl, ht.success_confirmed rfl⟩

/-! ### Bounded retries, and only after the sign's own 'failed' report -/

theorem attemptMsgs_one_request (a : UInt16) (msgs : List Msg) (op : Op)
    (hm : ∀ m ∈ msgs, m ≠ .requestOp a op) :
    ((attemptMsgs a msgs op).filter (· == .requestOp a op)).length ≤ 1 := by
  have : msgs.filter (· == .requestOp a op) = [] :=
    List.filter_eq_nil_iff.mpr fun m h => by simpa using hm m h
  simp [attemptMsgs, this]

theorem chunk_not_request (a : UInt16) (op : Op) (items : List (List UInt8)) :
    ∀ m ∈ allChunkMsgs items, m ≠ .requestOp a op := by
  intro m hm
  obtain ⟨off, d, rfl, _⟩ := mem_allChunkMsgs hm
  simp

/-- At most three transfer attempts per call: in every conversation of a transfer the receive
    request occurs at most three times. -/
theorem transfer_attempts_le_3 (a : UInt16) (items : List (List UInt8)) (op : Op) (succ failS : State)
    (script : List Reply) (hlen : (allChunkMsgs items).length < 65536) :
    ((msgsOf ((transfer a (allChunkMsgs items) op succ failS 2).run script).1).filter
      (· == .requestOp a op)).length ≤ 3 := by
  have hs := (transfer_refines a (allChunkMsgs items) op succ failS 2 hlen).run script
  exact hs.attempt_shape.count_le _ (attemptMsgs_one_request a _ op (chunk_not_request a op items))

/-- A further attempt is made only after the sign's own 'failed' report: every conversation of a
    transfer is a sequence of complete attempts each ended by exactly that exchange, followed by a
    final attempt containing no further request. -/
theorem transfer_retry_only_after_own_failed (a : UInt16) (items : List (List UInt8)) (op : Op)
    (succ failS : State) (script : List Reply) (hlen : (allChunkMsgs items).length < 65536) :
    RetryShape a (allChunkMsgs items) op failS
      ((transfer a (allChunkMsgs items) op succ failS 2).run script).1 :=
  ((transfer_refines a (allChunkMsgs items) op succ failS 2 hlen).run script).retry_shape
    (chunk_not_request a op items)

/-! ### A reply carrying another address is never treated as the controller's own -/

/-- Replacing, anywhere in a script, a state report or acknowledgement from another address by
    any unrelated frame changes neither what is sent nor what is returned. -/
theorem foreign_reply_is_unrelated (a a' : UInt16) (ha : a' ≠ a) (s : State) (f : Frame)
    (t : SignType) (pre post : List Reply) :
    (configure a t).trace (pre ++ .ok (some (.reportState a' s)) :: post) =
      (configure a t).trace (pre ++ .ok (some (.unknown f)) :: post) ∧
    ((configure a t).run (pre ++ .ok (some (.reportState a' s)) :: post)).2 =
      ((configure a t).run (pre ++ .ok (some (.unknown f)) :: post)).2 := by
  apply (ctrl_configure a t).run_eq
  simp [classify, ha]

theorem foreign_ack_is_unrelated (a a' : UInt16) (ha : a' ≠ a) (o : Op) (f : Frame)
    (pages : List (List UInt8)) (pre post : List Reply) :
    (sendPages a pages).trace (pre ++ .ok (some (.ackOp a' o)) :: post) =
      (sendPages a pages).trace (pre ++ .ok (some (.unknown f)) :: post) ∧
    ((sendPages a pages).run (pre ++ .ok (some (.ackOp a' o)) :: post)).2 =
      ((sendPages a pages).run (pre ++ .ok (some (.unknown f)) :: post)).2 := by
  apply (ctrl_sendPages a pages).run_eq
  simp [classify, ha]

-- Non-vacuity: a foreign acknowledgement of the first request is a protocol error, and nothing is sent after it.
example : ((sendPages 3 []).run [.ok (some (.ackOp 4 .receivePixels)), .ok none]).2 = .proto := by decide
example : (((sendPages 3 []).run [.ok (some (.ackOp 4 .receivePixels)), .ok none]).1).length = 1 := by decide

end Flipdot.C11
