/-
C09 — Controller data transfers are complete, ordered, correctly offset and counted.
First the chunking functions of the model (`chunks16`, `itemMsgs`, `allChunkMsgs`; lemmas in Lemmas/Chunks.lean), then
whole transfer conversations, whose messages have the shape `AttemptShape` over `attemptMsgs`
(Lemmas/CtrlSpec.lean); last, what happens beyond the 16-bit chunk counter.
-/
import Flipdot.Lemmas.Chunks
import Flipdot.Lemmas.CtrlSpec
namespace Flipdot.C09

/-- The chunks of an item concatenate to exactly the item's bytes. -/
theorem chunks_complete (item : List UInt8) : (chunks16 item).flatten = item := chunks16_flatten item

/-- Every chunk has at most 16 bytes (and at least one). -/
theorem chunk_sizes (item : List UInt8) : ∀ c ∈ chunks16 item, 1 ≤ c.length ∧ c.length ≤ 16 :=
  chunks16_len item

/-- The `i`-th message of an item carries bytes `16 i ..` of the item at offset `16 i`. -/
theorem item_message (item : List UInt8) (i : Nat) (h : i * 16 < item.length) :
    (itemMsgs item)[i]? = some (.sendData (UInt16.ofNat (i * 16)) ((item.drop (i * 16)).take 16)) :=
  (itemMsgs_getElem? item i).trans (if_pos h)

/-- ... and there are exactly `ceil(len / 16)` of them, nothing after. -/
theorem item_message_count (item : List UInt8) : (itemMsgs item).length = (item.length + 15) / 16 := by
  rw [itemMsgs, chunkMsgsFrom_length, chunks16_count]

/-- Offsets are exactly `0, 16, 32, ...` up to the 16-bit offset limit. -/
theorem offset_exact (i : Nat) (h : i * 16 < 65536) : (UInt16.ofNat (i * 16)).toNat = i * 16 :=
  UInt16.toNat_ofNat_of_lt' h

/-- Several items are sent one after the other, each chunked on its own (offsets restart at 0). -/
theorem items_in_order (items : List (List UInt8)) : allChunkMsgs items = items.flatMap itemMsgs :=
  allChunkMsgs_eq_flatMap items

/-- The configuration transfer sends exactly the 16-byte block of the controller's sign type, as a
    single chunk at offset 0. -/
theorem config_is_type_block (t : SignType) : cfgMsgs t = [.sendData 0 t.toBytes] :=
  allChunkMsgs_typeBlock t

/-- The announced count is the number of chunks sent since the request (as long as it fits the
    16-bit field). -/
theorem count_exact (msgs : List Msg) (h : msgs.length < 65536) :
    (UInt16.ofNat msgs.length).toNat = msgs.length :=
  UInt16.toNat_ofNat_of_lt' h

/-- Every transfer conversation consists of attempts, each a (complete, or — only for the last —
    possibly cut short) run of: the receive request, every chunk of every item in order, the chunk
    count, the state query. -/
theorem transfer_shape (a : UInt16) (items : List (List UInt8)) (op : Op) (succ failS : State)
    (script : List Reply) (hlen : (allChunkMsgs items).length < 65536) :
    AttemptShape (attemptMsgs a (allChunkMsgs items) op) 2
      (msgsOf ((transfer a (allChunkMsgs items) op succ failS 2).run script).1) :=
  ((transfer_refines a _ op succ failS 2 hlen).run script).attempt_shape

/-- Data and count are sent only after the sign itself acknowledged the receive request: in any
    transfer conversation with more than one exchange, the first one is the request answered by the
    sign's own acknowledgement. -/
theorem ack_before_data (a : UInt16) (msgs : List Msg) (op : Op) (succ failS : State) (n : Nat)
    (c : List Ex) (o : Outcome Unit) (h : TransferSpec a msgs op succ failS n c o)
    (hl : 2 ≤ c.length) : c[0]? = some (ans (.requestOp a op) (some (.ackOp a op))) := by
  refine h.by_attempts (motive := fun _ c _ => 2 ≤ c.length → c[0]? = _)
    (fun n pre e o ⟨post, hpre⟩ _ _ hl => ?_) (fun n c o _ _ => by simp [okConv, attemptReqs]) hl
  cases pre with
  | nil => simp [okConv] at hl
  | cons p pre =>
    simp only [attemptReqs, List.cons_append, List.cons.injEq] at hpre
    simp [okConv, hpre.1]

/-- `configure`: whenever the configuration phase is reached, what follows is a transfer of the
    type block in the shape above; otherwise no data message was sent at all. -/
theorem configure_shape (a : UInt16) (t : SignType) (script : List Reply) :
    (∃ c1 c2, ((configure a t).run script).1 = c1 ++ c2 ∧ EnsureOK a c1 ∧
        AttemptShape (attemptMsgs a [.sendData 0 t.toBytes] .receiveConfig) 2 (msgsOf c2)) ∨
    (EnsureStop a ((configure a t).run script).1 ((configure a t).run script).2) := by
  have hs := (configure_refines a t).run script
  generalize ((configure a t).run script).1 = c at hs ⊢
  cases hs with
  | ensureStop c o he => exact .inr he
  | transfer c1 c2 o h1 ht =>
    refine .inl ⟨c1, c2, rfl, h1, ?_⟩
    rw [← config_is_type_block]
    exact ht.attempt_shape

/-! ### The excluded region: 65 536 chunks or more in one transfer -/

/-- If every chunk is met with silence, the 65 536th one overflows the controller's 16-bit chunk
    counter: the model's explicit panic node (a debug-profile panic in the real code). -/
theorem sendChunks_overflow {α : Type} (ms : List Msg) (n : Nat) (k : Nat → Prog α)
    (hn : n < 65536) (hlen : 65536 ≤ n + ms.length) (rest : List Reply) :
    ((sendChunks ms n k).run (List.replicate (65536 - n) (.ok none) ++ rest)).2 = .panic .overflow := by
  induction ms generalizing n with
  | nil => simp at hlen; omega
  | cons m ms ih =>
    have e : 65536 - n = (65536 - (n + 1)) + 1 := by omega
    rw [e, List.replicate_succ, List.cons_append]
    simp only [sendChunks, Prog.run_send_ok, ↓reduceIte]
    by_cases h1 : n + 1 ≥ 65536
    · simp [h1]
    · simp only [h1, ↓reduceIte]
      exact ih (n + 1) (by omega) (by simp at hlen ⊢; omega)

theorem transfer_overflow_panics (a : UInt16) (msgs : List Msg) (op : Op) (succ failS : State)
    (n : Nat) (h : 65536 ≤ msgs.length) (rest : List Reply) :
    ((transfer a msgs op succ failS n).run
      (.ok (some (.ackOp a op)) :: (List.replicate 65536 (.ok none) ++ rest))).2 = .panic .overflow := by
  cases n <;>
    (unfold transfer expect
     simp only [Prog.run_send_ok, ↓reduceIte]
     exact sendChunks_overflow msgs 0 _ (by omega) (by omega) rest)

-- Non-vacuity: a 96-byte page is 6 chunks at offsets 0..80; a 20-byte item ends with a short chunk.
example : (itemMsgs (List.replicate 96 7)).length = 6 := by decide
example : (itemMsgs (List.replicate 20 7))[1]? = some (.sendData 16 [7, 7, 7, 7]) := by decide
example : (allChunkMsgs [List.replicate 16 1, List.replicate 16 2]).length < 65536 := by decide

end Flipdot.C09
