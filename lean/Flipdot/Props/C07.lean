/-
C07 — Page bytes follow the sign's native layout for every size.
The padded size, the bytes of a new page, the byte and bit a pixel lives in (inside the data area, no two pixels in
one place), and `from_bytes` as the inverse of `as_bytes`.
-/
import Flipdot.Lemmas.Page
namespace Flipdot.C07

/-- The padded size: data area rounded up to the next multiple of 16, fewer than 16 bytes of
    padding. -/
theorem total_props (w h : Nat) :
    totalBytes w h % 16 = 0 ∧ dataBytes w h ≤ totalBytes w h ∧
    totalBytes w h - dataBytes w h < 16 ∧ dataBytes w h = 4 + w * ((h + 7) / 8) :=
  ⟨totalBytes_mod w h, totalBytes_ge w h, totalBytes_pad w h, rfl⟩

/-- A new page is `[id, 0x10, 0, 0]`, then `w * ceil(h/8)` zero bytes, then `0xFF` padding up to
    the next multiple of 16. -/
theorem new_bytes (id : UInt8) (w h : Nat) :
    (Page.new id w h).bytes =
      [id, 0x10, 0x00, 0x00] ++ List.replicate (w * bpc h) 0x00 ++
        List.replicate (totalBytes w h - dataBytes w h) 0xFF := by
  have h1 := totalBytes_ge w h
  have h2 : 4 + w * bpc h = dataBytes w h := rfl
  show resize (resize _ _ _) _ _ = _
  rw [resize_ge [id, 0x10, 0x00, 0x00] _ _ (by simp [← h2]), resize_ge _ _ _ (by simp [← h2]; omega)]
  simp [← h2]
  omega

theorem new_wf (id : UInt8) (w h : Nat) : (Page.new id w h).WF := by
  have h1 := totalBytes_ge w h
  have h2 : 4 + w * bpc h = dataBytes w h := rfl
  rw [Page.WF, new_bytes]
  show _ = totalBytes w h
  simp
  omega

/-- Pixel `(x, y)` lives in byte `4 + x*ceil(h/8) + y/8`, bit `y % 8` counted from the least
    significant bit (top of the column). -/
theorem pixel_location (p : Page) (hp : p.WF) (x y : Nat) (hx : x < p.w) (hy : y < p.h) :
    ∃ b, p.bytes[4 + x * ((p.h + 7) / 8) + y / 8]? = some b ∧
      p.get x y = .ok ((b >>> UInt8.ofNat (y % 8)) &&& 1 == 1) :=
  ⟨_, List.getElem?_eq_getElem (p.idx_lt hp x y hx hy),
    (p.get_eq hp hx hy).trans (congrArg _ (testMask_eq_shift _ _ (by omega)))⟩

/-- Distinct pixels never share a bit. -/
theorem location_injective (h x y x' y' : Nat) (hy : y < h) (hy' : y' < h)
    (hi : 4 + x * bpc h + y / 8 = 4 + x' * bpc h + y' / 8) (hb : y % 8 = y' % 8) :
    x = x' ∧ y = y' := index_inj h x y x' y' hy hy' hi hb

/-- Every pixel's byte lies strictly inside the data area (never header, never padding). -/
theorem location_in_data (w h x y : Nat) (hx : x < w) (hy : y < h) :
    4 ≤ 4 + x * bpc h + y / 8 ∧ 4 + x * bpc h + y / 8 < dataBytes w h :=
  ⟨by omega, index_lt w h x y hx hy⟩

/-- Building a page from raw bytes succeeds exactly when the length equals the padded size, and
    then exposes exactly the bytes given. -/
theorem fromBytes_ok_iff (w h : Nat) (bs : List UInt8) (p : Page) :
    Page.fromBytes w h bs = .ok p ↔ bs.length = totalBytes w h ∧ p = ⟨w, h, bs⟩ := by
  unfold Page.fromBytes
  by_cases hl : bs.length = totalBytes w h
  · simp [hl]; exact eq_comm
  · simp [hl]

theorem fromBytes_err (w h : Nat) (bs : List UInt8) (hl : bs.length ≠ totalBytes w h) :
    Page.fromBytes w h bs = .error (.wrongLen w h (totalBytes w h) bs.length) := by
  unfold Page.fromBytes; simp [hl]

/-- `from_bytes` of a well-formed page's own bytes gives back the page. -/
theorem fromBytes_asBytes (p : Page) (hp : p.WF) : Page.fromBytes p.w p.h p.bytes = .ok p := by
  rw [fromBytes_ok_iff]; exact ⟨hp, rfl⟩

-- Non-vacuity: the documented 90x7 page (96 bytes, 2 bytes of padding).
example : totalBytes 90 7 = 96 ∧ dataBytes 90 7 = 94 := by decide
example : (Page.new 3 90 7).WF := new_wf 3 90 7
example : ((Page.new 1 40 12).set 39 8 true).map (·.bytes.getD 83 0) = .ok 1 := by decide +kernel

end Flipdot.C07
