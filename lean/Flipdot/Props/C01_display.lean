/-
C01 (continued) — the human-readable form of a frame (`Display for Frame`, what a bus monitor logs) loses nothing:
it has the documented shape and two frames that print the same are the same frame.  On the way, each printed piece
determines what was printed: a byte's two digits (`hexByte_inj`), the data block (`dataText_inj`), the address from
its two bytes (`addr_of_bytes`).
-/
import Flipdot.Model.Display
import Flipdot.Lemmas.Frame
namespace Flipdot.C01

theorem hexByte_inj (a b : UInt8) (h : hexByte a = hexByte b) : a = b := by
  have h1 := hexPairs_hexUpper [a]
  have h2 := hexPairs_hexUpper [b]
  simp only [hexUpper] at h1 h2
  rw [h, h2] at h1
  simpa using h1.symm

theorem hexByte_append_inj {a b : UInt8} {l m : List UInt8} (h : hexByte a ++ l = hexByte b ++ m) :
    a = b ∧ l = m :=
  -- `rfl` for the lengths would have Lean compare the digits of `a` and `b` before it counts them
  (List.append_inj h (by simp [hexByte])).imp_left (hexByte_inj a b)

theorem dataText_inj : ∀ (d e : List UInt8), dataText d = dataText e → d = e
  | [], [] => fun _ => rfl
  | [], b :: bs => fun h => by simp [dataText, hexByte] at h
  | a :: as, [] => fun h => by simp [dataText, hexByte] at h
  | a :: as, b :: bs => fun h => by
    simp only [dataText, List.append_assoc] at h
    obtain ⟨rfl, h'⟩ := hexByte_append_inj h
    rw [dataText_inj as bs (List.append_cancel_left h')]

theorem dataText_length (d : List UInt8) : (dataText d).length = 3 * d.length := by
  induction d with
  | nil => rfl
  | cons b bs ih => simp [dataText, hexByte, ih]; omega

theorem addr_of_bytes (a b : UInt16) (hhi : (a >>> 8).toUInt8 = (b >>> 8).toUInt8) (hlo : a.toUInt8 = b.toUInt8) :
    a = b := by
  rw [← addrBytes_join a, ← addrBytes_join b, hhi, hlo]

/-- Shape: 19 characters of header, and for a frame with data 8 more and three per byte. -/
theorem display_length (f : Frame) :
    f.display.length = 19 + (if f.data.isEmpty then 0 else 8 + 3 * f.data.length) := by
  unfold Frame.display
  split <;> simp [hexByte, dataText_length]
  omega

/-- The printed form identifies the frame. -/
theorem display_injective (f g : Frame) (h : f.display = g.display) : f = g := by
  obtain ⟨fa, ft, fd⟩ := f
  obtain ⟨ga, gt, gd⟩ := g
  simp only [Frame.display, List.append_assoc, List.cons_append, List.nil_append, List.cons.injEq, true_and] at h
  obtain ⟨rfl, h1⟩ := hexByte_append_inj h
  simp only [List.cons.injEq, true_and] at h1
  obtain ⟨hhi, h2⟩ := hexByte_append_inj h1
  obtain ⟨hlo, hd⟩ := hexByte_append_inj h2
  obtain rfl := addr_of_bytes fa ga hhi hlo
  -- an empty data block prints nothing, any other starts with " | Data "
  cases fd <;> cases gd <;> simp at hd
  · rfl
  · rw [dataText_inj _ _ hd]

-- The documented look: "Type 01 | Addr 0002 | Data 03 04 " (with the trailing blank the formatter writes).
example : (Frame.mk 2 1 [3, 4]).display =
    [84,121,112,101,32,48,49, 32,124,32, 65,100,100,114,32,48,48,48,50, 32,124,32, 68,97,116,97,32, 48,51,32, 48,52,32] := by
  decide +kernel
example : (Frame.mk 0x7F 0x20 []).display = [84,121,112,101,32,50,48, 32,124,32, 65,100,100,114,32,48,48,55,70] := by
  decide +kernel

end Flipdot.C01
