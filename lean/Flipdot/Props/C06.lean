/-
C06 — Page pixel operations change exactly the addressed pixel and nothing else.
Single operations first, as corollaries of the equations of Lemmas/Page.lean.  Then histories: `applyOps` runs a list
of `PageOp`s (`set`, `setAll`) on a page, `specOps` performs them by function update on a picture `Nat → Nat → Bool`,
and `Shows p q f` — `p` reads as `f` and has `q`'s size, header and padding — is kept by every operation that returns
(`step_shows`); so any in-bounds history ends on a page that shows `specOps f ops` (`ops_refine`; `history` starts at
`picture p`, what `p` reads).
-/
import Flipdot.Lemmas.Page
import Flipdot.Props.C07
namespace Flipdot.C06

/-- Out-of-bounds coordinates panic (with the explicit bounds panic, before any byte is read or
    written). -/
theorem oob_panics (p : Page) (x y : Nat) (v : Bool) (h : x ≥ p.w ∨ y ≥ p.h) :
    p.get x y = .error .oob ∧ p.set x y v = .error .oob := by
  simp only [Page.get, Page.set, p.indices_oob x y h, and_self]

/-- In-bounds coordinates never panic. -/
theorem inb_no_panic (p : Page) (hp : p.WF) (x y : Nat) (v : Bool) (hx : x < p.w) (hy : y < p.h) :
    (∃ b, p.get x y = .ok b) ∧ (∃ p', p.set x y v = .ok p') :=
  ⟨⟨_, p.get_eq hp hx hy⟩, ⟨_, p.set_eq hp hx hy v⟩⟩

/-- Writing a pixel keeps the dimensions, the byte length, the 4 header bytes (incl. the id) and
    every padding byte — indeed every byte other than the pixel's own. -/
theorem set_preserves (p p' : Page) (hp : p.WF) (x y : Nat) (v : Bool)
    (h : p.set x y v = .ok p') :
    p'.w = p.w ∧ p'.h = p.h ∧ p'.bytes.length = p.bytes.length ∧ p'.WF ∧
    (∀ i, i ≠ 4 + x * bpc p.h + y / 8 → p'.bytes[i]? = p.bytes[i]?) ∧
    (∀ i, i < 4 ∨ dataBytes p.w p.h ≤ i → p'.bytes[i]? = p.bytes[i]?) := by
  obtain ⟨hx, hy, b, -, rfl⟩ := Page.set_inv h
  have hlt := index_lt p.w p.h x y hx hy
  exact ⟨rfl, rfl, List.length_set, List.length_set.trans hp,
    fun i hi => List.getElem?_set_ne hi.symm, fun i hi => List.getElem?_set_ne (by omega)⟩

/-- Setting all pixels keeps dimensions, length, header (id) and padding. -/
theorem setAll_preserves (p p' : Page) (hp : p.WF) (v : Bool) (h : p.setAll v = .ok p') :
    p'.w = p.w ∧ p'.h = p.h ∧ p'.WF ∧
    (∀ i, i < 4 ∨ dataBytes p.w p.h ≤ i → p'.bytes[i]? = p.bytes[i]?) := by
  obtain ⟨bs, rfl, hl, hb⟩ := Page.setAll_inv h
  exact ⟨rfl, rfl, hl.trans hp, fun i hi => (hb i).trans (if_neg (by omega))⟩

section
-- These three keep the hypotheses the property is worded with; `Page.get_set` and `Page.setAll_inv`, which
-- hold of any page on which the call returned, need neither `hp` nor the bounds on `x'`, `y'`.
set_option linter.unusedVariables false

/-- Reading back the pixel just written returns the new value. -/
theorem get_set_same (p p' : Page) (hp : p.WF) (x y : Nat) (v : Bool)
    (h : p.set x y v = .ok p') : p'.get x y = .ok v := by
  rw [Page.get_set h, if_pos ⟨rfl, rfl⟩]

/-- Every other pixel is left unchanged. -/
theorem get_set_other (p p' : Page) (hp : p.WF) (x y x' y' : Nat) (v : Bool)
    (hx' : x' < p.w) (hy' : y' < p.h) (hne : (x', y') ≠ (x, y))
    (h : p.set x y v = .ok p') : p'.get x' y' = p.get x' y' := by
  rw [Page.get_set h, if_neg (fun e => hne (by rw [e.1, e.2]))]

/-- After setting all pixels every pixel reads the given value. -/
theorem setAll_get (p p' : Page) (hp : p.WF) (v : Bool) (h : p.setAll v = .ok p')
    (x y : Nat) (hx : x < p.w) (hy : y < p.h) : p'.get x y = .ok v := by
  obtain ⟨bs, rfl, -, hb⟩ := Page.setAll_inv h
  refine (Page.get_of_byte (p := { p with bytes := bs }) hx hy
    ((hb _).trans (if_pos ⟨by omega, index_lt p.w p.h x y hx hy⟩))).trans ?_
  cases v
  · exact congrArg _ (testMask_00 _ (by omega))
  · exact congrArg _ (testMask_ff _ (by omega))

end

inductive PageOp where
  | set (x y : Nat) (v : Bool)
  | setAll (v : Bool)
  deriving Repr

def PageOp.inb (w h : Nat) : PageOp → Prop
  | .set x y _ => x < w ∧ y < h
  | .setAll _ => True

instance (w h : Nat) (op : PageOp) : Decidable (op.inb w h) := by
  cases op <;> unfold PageOp.inb <;> infer_instance

def applyOp (p : Page) : PageOp → Except Panic Page
  | .set x y v => p.set x y v
  | .setAll v => p.setAll v

def applyOps (p : Page) : List PageOp → Except Panic Page
  | [] => .ok p
  | op :: ops =>
    match applyOp p op with
    | .error e => .error e
    | .ok p' => applyOps p' ops

/-- One operation as a function update on the abstract picture (a plain function from coordinates to on/off). -/
def specOp (f : Nat → Nat → Bool) : PageOp → Nat → Nat → Bool
  | .set x y v => fun x' y' => if x' = x ∧ y' = y then v else f x' y'
  | .setAll v => fun _ _ => v

def specOps (f : Nat → Nat → Bool) : List PageOp → Nat → Nat → Bool
  | [] => f
  | op :: ops => specOps (specOp f op) ops

/-- The page `p` shows picture `f`, with header/padding bytes equal to those of `q`. -/
def Shows (p q : Page) (f : Nat → Nat → Bool) : Prop :=
  p.WF ∧ p.w = q.w ∧ p.h = q.h ∧
  (∀ x y, x < q.w → y < q.h → p.get x y = .ok (f x y)) ∧
  (∀ i, i < 4 ∨ dataBytes q.w q.h ≤ i → p.bytes[i]? = q.bytes[i]?)

/-- One step of the simulation, with the bookkeeping about `q` done once: a page `p'` of `p`'s size that keeps
    `p`'s header and padding shows `g` as soon as its pixels read `g` where `p`'s read `f`. -/
theorem Shows.step {p p' q : Page} {f g : Nat → Nat → Bool} (hs : Shows p q f)
    (hf : p'.w = p.w ∧ p'.h = p.h ∧ p'.WF ∧ ∀ i, i < 4 ∨ dataBytes p.w p.h ≤ i → p'.bytes[i]? = p.bytes[i]?)
    (hpix : ∀ x y, x < p.w → y < p.h → p.get x y = .ok (f x y) → p'.get x y = .ok (g x y)) : Shows p' q g := by
  obtain ⟨_, hw, hh, hpx, hpad⟩ := hs
  obtain ⟨pw, ph, pwf, ppad⟩ := hf
  rw [hw, hh] at hpix ppad
  exact ⟨pwf, pw.trans hw, ph.trans hh, fun x y hx hy => hpix x y hx hy (hpx x y hx hy),
    fun i hi => (ppad i hi).trans (hpad i hi)⟩

/-- Every operation that returns keeps the page in step with the picture. -/
theorem step_shows {p p' q : Page} {f : Nat → Nat → Bool} {op : PageOp} (hs : Shows p q f)
    (h : applyOp p op = .ok p') : Shows p' q (specOp f op) := by
  have hwf := hs.1
  cases op with
  | set x y v =>
    obtain ⟨pw, ph, _, pwf, _, ppad⟩ := set_preserves p p' hwf x y v h
    refine hs.step ⟨pw, ph, pwf, ppad⟩ fun x' y' hx' hy' hf => ?_
    rw [Page.get_set h, hf]
    exact (apply_ite Except.ok _ v (f x' y')).symm
  | setAll v =>
    exact hs.step (setAll_preserves p p' hwf v h) fun x y hx hy _ => setAll_get p p' hwf v h x y hx hy

theorem step_refines (p q : Page) (f : Nat → Nat → Bool) (op : PageOp)
    (hs : Shows p q f) (hop : op.inb q.w q.h) :
    ∃ p', applyOp p op = .ok p' ∧ Shows p' q (specOp f op) := by
  have hok : ∃ p', applyOp p op = .ok p' := by
    cases op with
    | set x y v => exact ⟨_, p.set_eq hs.1 (hs.2.1 ▸ hop.1) (hs.2.2.1 ▸ hop.2) v⟩
    | setAll v => exact ⟨_, p.setAll_eq hs.1 v⟩
  exact hok.imp fun p' h => ⟨h, step_shows hs h⟩

/-- For every sequence of in-bounds set / clear / set-all operations: no panic, and the final page
    shows exactly the picture obtained by plain function update, with id, dimensions, length and
    padding untouched. -/
theorem ops_refine (p q : Page) (f : Nat → Nat → Bool) (ops : List PageOp)
    (hs : Shows p q f) (hops : ∀ op ∈ ops, op.inb q.w q.h) :
    ∃ p', applyOps p ops = .ok p' ∧ Shows p' q (specOps f ops) := by
  induction ops generalizing p f with
  | nil => exact ⟨p, rfl, hs⟩
  | cons op ops ih =>
    obtain ⟨p1, h1, s1⟩ := step_refines p q f op hs (hops op (by simp))
    obtain ⟨p2, h2, s2⟩ := ih p1 (specOp f op) s1 (fun o ho => hops o (by simp [ho]))
    exact ⟨p2, by simp [applyOps, h1, h2], s2⟩

/-- The picture a well-formed page currently shows. -/
def picture (p : Page) (x y : Nat) : Bool :=
  match p.get x y with
  | .ok b => b
  | .error _ => false

theorem get_picture {p : Page} (hp : p.WF) {x y : Nat} (hx : x < p.w) (hy : y < p.h) :
    p.get x y = .ok (picture p x y) := by
  simp only [picture, p.get_eq hp hx hy]

theorem shows_self (p : Page) (hp : p.WF) : Shows p p (picture p) :=
  ⟨hp, rfl, rfl, fun _ _ => get_picture hp, fun _ _ => rfl⟩

/-- The history theorem instantiated at any starting page — freshly created or built over given
    bytes (both constructors establish `WF`). -/
theorem history (p : Page) (hp : p.WF) (ops : List PageOp) (hops : ∀ op ∈ ops, op.inb p.w p.h) :
    ∃ p', applyOps p ops = .ok p' ∧ Shows p' p (specOps (picture p) ops) :=
  ops_refine p p (picture p) ops (shows_self p hp) hops

-- Non-vacuity: a fresh page and a page over given bytes meet the hypotheses.
example : (Page.new 3 90 7).WF := C07.new_wf 3 90 7
example : ∀ p, Page.fromBytes 2 9 (List.replicate 16 0xAA) = .ok p → p.WF := by
  intro p h; rw [C07.fromBytes_ok_iff] at h; rw [h.2]; exact h.1
example : (PageOp.set 89 6 true).inb 90 7 := by decide

end Flipdot.C06
