/-
C06 (continued) — the printed picture determines every pixel: the character for pixel (x, y) sits at the fixed
position `charPos w x y` of the text (`specRender_pixel`), so two pages of the same size print the same text only if
they show the same picture, and a `set_pixel` changes, of all the pixels' characters, exactly that one.
-/
import Flipdot.Props.C06_render
namespace Flipdot.C06

/-- Character `j` of row `y0 + y` sits at offset `(w + 3) * y + j` of the concatenated rows. -/
theorem rows_getElem (f : Nat → Nat → Bool) (w : Nat) : ∀ n y0 y j, y < n → j < w + 3 →
    ((List.range' y0 n).flatMap (specRow f w))[(w + 3) * y + j]? = (specRow f w (y0 + y))[j]? := by
  intro n
  induction n with
  | zero => omega
  | succ n ih =>
    intro y0 y j hy hj
    rw [List.range'_succ, List.flatMap_cons]
    cases y with
    | zero =>
      rw [List.getElem?_append_left (by rw [specRow_length]; omega)]
      simp
    | succ y =>
      rw [List.getElem?_append_right (by rw [specRow_length, Nat.mul_succ]; omega)]
      have e : (w + 3) * (y + 1) + j - (specRow f w y0).length = (w + 3) * y + j := by
        rw [specRow_length, Nat.mul_succ]; omega
      rw [e, ih (y0 + 1) y j (by omega) hj]
      congr 2; omega

/-- Where pixel (x, y) is printed. -/
def charPos (w x y : Nat) : Nat := (w + 3) * (y + 1) + 1 + x

theorem specRender_pixel (f : Nat → Nat → Bool) (w h x y : Nat) (hx : x < w) (hy : y < h) :
    (specRender f w h)[charPos w x y]? = some (dot (f x y)) := by
  -- the top border with its newline is as long as a row
  have hlen : (border w ++ [10]).length = w + 3 := by simp [border_length]
  have hpos : charPos w x y = (border w ++ [10]).length + ((w + 3) * y + (x + 1)) := by
    rw [hlen, charPos, Nat.mul_succ]; omega
  have hrow : (specRow f w y)[x + 1]? = some (dot (f x y)) := by
    rw [specRow, List.getElem?_cons_succ, List.getElem?_append_left (by simp; omega)]
    simp [hx]
  -- the character is there before the bottom border is appended, so no bound on the position is needed
  have hpre : (border w ++ [10] ++ (List.range' 0 h).flatMap (specRow f w))[charPos w x y]? = some (dot (f x y)) := by
    rw [hpos, List.getElem?_append_right (Nat.le_add_right _ _), Nat.add_sub_cancel_left,
      rows_getElem f w h 0 y (x + 1) hy (by omega), Nat.zero_add, hrow]
  rw [specRender, List.getElem?_append_left (List.getElem?_eq_some_iff.mp hpre).1, hpre]

theorem dot_inj (a b : Bool) (h : dot a = dot b) : a = b := by
  cases a <;> cases b <;> first | rfl | (exact absurd h (by decide))

/-- Two pictures of the same size that print the same are the same picture. -/
theorem specRender_injective (f g : Nat → Nat → Bool) (w h : Nat)
    (e : specRender f w h = specRender g w h) : ∀ x y, x < w → y < h → f x y = g x y := by
  intro x y hx hy
  have h1 := specRender_pixel f w h x y hx hy
  have h2 := specRender_pixel g w h x y hx hy
  rw [e, h2] at h1
  exact (dot_inj _ _ (Option.some.inj h1)).symm

/-- Two well-formed pages of the same size that print the same read the same at every pixel. -/
theorem render_determines_pixels (p q : Page) (hp : p.WF) (hq : q.WF) (hw : p.w = q.w) (hh : p.h = q.h)
    (e : p.render = q.render) : ∀ x y, x < p.w → y < p.h → p.get x y = q.get x y := by
  intro x y hx hy
  rw [render_never_panics p hp, render_never_panics q hq, ← hw, ← hh] at e
  rw [get_picture hp hx hy, get_picture hq (hw ▸ hx) (hh ▸ hy),
    specRender_injective _ _ _ _ (Except.ok.inj e) x y hx hy]

/-- `set_pixel` keeps the length of the printed text, prints the new value at the position of that pixel and leaves
    the character of every other pixel as it was. -/
theorem render_set_frame (p p' : Page) (hp : p.WF) (x y : Nat) (v : Bool) (hx : x < p.w) (hy : y < p.h)
    (h : p.set x y v = .ok p') :
    ∃ s s', p.render = .ok s ∧ p'.render = .ok s' ∧ s'.length = s.length ∧
      s'[charPos p.w x y]? = some (dot v) ∧
      ∀ x' y', x' < p.w → y' < p.h → (x', y') ≠ (x, y) → s'[charPos p.w x' y']? = s[charPos p.w x' y']? := by
  refine ⟨_, _, render_never_panics p hp, render_shows p' p _ (step_shows (op := .set x y v) (shows_self p hp) h),
    by simp [specRender_length], ?_, fun x' y' hx' hy' hne => ?_⟩
  · rw [specRender_pixel _ _ _ x y hx hy]; simp [specOp]
  · rw [specRender_pixel _ _ _ x' y' hx' hy', specRender_pixel _ _ _ x' y' hx' hy']
    simp [specOp, show ¬ (x' = x ∧ y' = y) from fun e => hne (by rw [e.1, e.2])]

end Flipdot.C06
