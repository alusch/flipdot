/-
C16 — Serial bus: one frame out per message, one frame in exactly when a reply is due.
`events_shape` is the one equation for the port events of `serialStep` (the write, a pause, the read, a pause);
`mem_events` / `mem_tail_events` read it as membership, and C18 rests on them too.  `IsAux e`: `e` is a pause or the read.
-/
import Flipdot.Model.Serial
import Flipdot.Props.C15
namespace Flipdot.C16

/-- A reply is due exactly for hello, state query and operation request. -/
theorem responseExpected_iff (m : Msg) :
    responseExpected m = true ↔
      (∃ a, m = .hello a) ∨ (∃ a, m = .queryState a) ∨ (∃ a o, m = .requestOp a o) := by
  cases m <;> simp [responseExpected]

/-- Events other than the write itself. -/
def IsAux (e : PortEvent) : Prop := (∃ ms, e = .sleep ms) ∨ e = .readLine

theorem mem_sleepEv {d : Option Nat} {e : PortEvent} :
    e ∈ sleepEv d ↔ ∃ ms, d = some ms ∧ e = .sleep ms := by
  cases d <;> simp [sleepEv]

/-- The exact shape of what happens at the port. -/
theorem events_shape (m : Msg) (p : Port) :
    (serialStep m p).1 =
      .wrote (frameWrite (toFrame m) p.wr).2.1 (frameWrite (toFrame m) p.wr).1 ::
        (if (frameWrite (toFrame m) p.wr).1 then
          sleepEv (delayAfterSend m) ++
            (if responseExpected m then
              .readLine :: (match (frameRead p.rd).1 with
                | .ok f => sleepEv (delayAfterReceive (toMsg f))
                | _ => [])
            else [])
        else []) := by
  cases hw : (frameWrite (toFrame m) p.wr).1 <;> cases he : responseExpected m <;>
    cases hr : (frameRead p.rd).1 <;> simp [serialStep, hw, he, hr]

/-- `events_shape` read as membership: what can follow the write, and when. -/
theorem mem_tail_events {m : Msg} {p : Port} {e : PortEvent} :
    e ∈ (serialStep m p).1.tail ↔ (frameWrite (toFrame m) p.wr).1 = true ∧
      ((∃ ms, delayAfterSend m = some ms ∧ e = .sleep ms) ∨
        responseExpected m = true ∧ (e = .readLine ∨ ∃ f ms, (frameRead p.rd).1 = .ok f ∧
          delayAfterReceive (toMsg f) = some ms ∧ e = .sleep ms)) := by
  rw [events_shape]
  cases (frameRead p.rd).1 <;> simp [mem_sleepEv]

theorem mem_events {m : Msg} {p : Port} {e : PortEvent} :
    e ∈ (serialStep m p).1 ↔
      e = .wrote (frameWrite (toFrame m) p.wr).2.1 (frameWrite (toFrame m) p.wr).1 ∨
        e ∈ (serialStep m p).1.tail := by
  rw [events_shape]; exact List.mem_cons

/-- What is written is (a prefix of) exactly that message's frame encoding with CRLF — nothing else —
    in one `wrote` event, the first event; the whole encoding whenever the write succeeded. -/
theorem writes_exact (m : Msg) (p : Port) :
    ∃ d ok rest, (serialStep m p).1 = .wrote d ok :: rest ∧ d <+: encNL (toFrame m) ∧
      (ok = true → d = encNL (toFrame m)) ∧ (∀ e ∈ rest, IsAux e) := by
  have hw := C15.write_only_the_encoding (toFrame m) p.wr
  refine ⟨_, _, (serialStep m p).1.tail, by rw [events_shape]; rfl, hw.1, hw.2, fun e he => ?_⟩
  obtain ⟨-, ⟨ms, -, h⟩ | ⟨-, h | ⟨_, ms, -, -, h⟩⟩⟩ := mem_tail_events.mp he
  · exact .inl ⟨ms, h⟩
  · exact .inr h
  · exact .inl ⟨ms, h⟩

/-- `readLine` happens iff the write succeeded and a reply is due — and then exactly once. -/
theorem reads_iff_expected (m : Msg) (p : Port) :
    (.readLine ∈ (serialStep m p).1 ↔
      ((frameWrite (toFrame m) p.wr).1 = true ∧ responseExpected m = true)) ∧
    ((serialStep m p).1.filter (· == .readLine)).length ≤ 1 := by
  refine ⟨by simp [mem_events, mem_tail_events], ?_⟩
  -- no pause is a read, so the one `readLine` of `events_shape` is the only one
  have h1 : ∀ d, (sleepEv d).filter (· == .readLine) = [] := fun d => by cases d <;> rfl
  rw [events_shape]
  cases (frameWrite (toFrame m) p.wr).1 <;> cases responseExpected m <;>
    cases (frameRead p.rd).1 <;> simp [h1]

/-- A write failure is returned as an error, and then nothing is read. -/
theorem write_failure_is_error (m : Msg) (p : Port) (h : (frameWrite (toFrame m) p.wr).1 = false) :
    (serialStep m p).2.1 = .err ∧ (serialStep m p).2.2.rd = p.rd := by
  unfold serialStep
  simp [h]

/-- No reply due: nothing is read and "no reply" is returned. -/
theorem no_read_otherwise (m : Msg) (p : Port) (hw : (frameWrite (toFrame m) p.wr).1 = true)
    (he : responseExpected m = false) :
    (serialStep m p).2.1 = .ok none ∧ (serialStep m p).2.2.rd = p.rd := by
  unfold serialStep
  simp [hw, he]

/-- Reply due: exactly one `Frame::read` is made (so exactly one line is consumed, C15), and the
    result is its decoding interpreted as a message — or an error if the read failed or the line
    does not decode; never a missing or invented reply. -/
theorem reply_is_decoded (m : Msg) (p : Port) (hw : (frameWrite (toFrame m) p.wr).1 = true)
    (he : responseExpected m = true) :
    (serialStep m p).2.2.rd = (frameRead p.rd).2 ∧
    (serialStep m p).2.1 = (match (frameRead p.rd).1 with
      | .ok f => .ok (some (toMsg f))
      | _ => .err) := by
  unfold serialStep
  simp only [hw, Bool.not_true, Bool.false_eq_true, ↓reduceIte, he]
  cases hr : (frameRead p.rd).1 <;> exact ⟨rfl, rfl⟩

-- Non-vacuity: a state query answered by a report; a data chunk needs no reply.
example : responseExpected (.queryState 3) = true ∧ responseExpected (.sendData 0 [1]) = false := by decide

end Flipdot.C16
