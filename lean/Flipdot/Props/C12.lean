/-
C12 — A virtual sign never panics, whatever is sent on the bus.
The model's panic branches are the guarded indexings of `configDims` and `SignType.fromBytes`, reached from
`VSign.sendData` only on 16-byte blocks; `vstep` and `busStep` only pass them on.  `busRun`, defined here,
delivers a list of messages to a bus one after the other.
-/
import Flipdot.Lemmas.VSign
import Flipdot.Props.C19
namespace Flipdot.C12

/-- Digesting a 16-byte configuration block never panics, whatever its contents (all indexings
    are below 16; the width sum is taken in a type that cannot overflow). -/
theorem configDims_no_panic (data : List UInt8) (h : data.length = 16) :
    ∃ r, configDims data = .ok r := ⟨_, configDims_len16 data h⟩

theorem sendData_no_panic (s : VSign) (off : UInt16) (data : List UInt8) :
    ∃ s', s.sendData off data = .ok s' := by
  unfold VSign.sendData
  split
  · rename_i hc
    obtain ⟨r, hr⟩ := configDims_no_panic data hc.2.2
    rw [hr]
    cases r with
    | none => exact ⟨_, rfl⟩
    | some wh =>
      obtain ⟨r2, hr2⟩ := C19.fromBytes_no_panic data
      simp only [hr2]
      exact ⟨_, rfl⟩
  · split <;> exact ⟨_, rfl⟩

/-- One message, any sign state (reachable or not), any message: no panic. -/
theorem vstep_no_panic (s : VSign) (m : Msg) : ∃ r, vstep s m = .ok r := by
  cases m with
  | sendData off data =>
    obtain ⟨s', hs⟩ := sendData_no_panic s off data
    exact ⟨_, vstep_data hs⟩
  | requestOp a op =>
    by_cases ha : a = s.addr
    · subst ha; exact ⟨_, vstep_request s op⟩
    · exact ⟨(s, none), by simp only [vstep, ne_eq, ha, not_false_eq_true, ↓reduceIte]⟩
  | hello a | queryState a | pixelsComplete a | goodbye a => simp only [vstep]; split <;> exact ⟨_, rfl⟩
  | chunksSent n | reportState a st | ackOp a op | unknown f => exact ⟨_, rfl⟩

/-- A bus of any number of signs in any states: no panic. -/
theorem busStep_no_panic (bus : List VSign) (m : Msg) : ∃ r, busStep bus m = .ok r := by
  induction bus with
  | nil => exact ⟨_, rfl⟩
  | cons s rest ih =>
    obtain ⟨⟨s', r⟩, hs⟩ := vstep_no_panic s m
    obtain ⟨⟨rest', r'⟩, hr⟩ := ih
    simp only [busStep, hs, hr]
    cases r <;> exact ⟨_, rfl⟩

/-- Delivering a whole sequence of messages. -/
def busRun : List VSign → List Msg → Except Panic (List VSign × List (Option Msg))
  | b, [] => .ok (b, [])
  | b, m :: ms =>
    match busStep b m with
    | .error e => .error e
    | .ok (b', r) =>
      match busRun b' ms with
      | .error e => .error e
      | .ok (b'', rs) => .ok (b'', r :: rs)

/-- Every history, on every bus population: returns normally every time. -/
theorem busRun_no_panic (bus : List VSign) (ms : List Msg) : ∃ r, busRun bus ms = .ok r := by
  induction ms generalizing bus with
  | nil => exact ⟨_, rfl⟩
  | cons m ms ih =>
    obtain ⟨⟨b', r⟩, hb⟩ := busStep_no_panic bus m
    obtain ⟨⟨b'', rs⟩, hr⟩ := ih b'
    exact ⟨(b'', r :: rs), by simp [busRun, hb, hr]⟩

/-- A transfer ends in 'received' or 'failed' — never anything else — when the chunk count is
    announced, whatever chunks were lost, short, extra or repeated before. -/
theorem transfer_ends_failed_or_received (s : VSign) (n : UInt16) :
    (s.state = .pixelsInProgress →
      (s.chunksSent n).state = .pixelsReceived ∨ (s.chunksSent n).state = .pixelsFailed) ∧
    (s.state = .configInProgress →
      (s.chunksSent n).state = .configReceived ∨ (s.chunksSent n).state = .configFailed) := by
  rw [VSign.chunksSent_eq]
  constructor <;> intro hs <;> simp only [hs, State.afterCount] <;> split <;> simp

-- `busRun_no_panic` at the history of defect F3 (DESIGN.md §7: panel widths 200 + 100 overflow a `u8` sum).
-- The example instantiates the theorem and evaluates nothing.
example : ∃ r, busRun [VSign.new 3 .manual]
    [.requestOp 3 .receiveConfig,
     .sendData 0 [4, 0xEE, 0, 7, 0x10, 200, 100, 0, 0, 8, 0, 0, 0, 0, 0, 0],
     .chunksSent 1] = .ok r := busRun_no_panic _ _

end Flipdot.C12
