/-
C10 (continued) — the protocol relations are exact: a conversation satisfies the documented
protocol if and only if the controller produces it, so the protocol determines every next message
and the outcome from the replies seen so far.
-/
import Flipdot.Lemmas.CtrlConv
namespace Flipdot.C10

/-- configure: the documented protocol allows exactly the conversations the controller has. -/
theorem configure_exact (a : UInt16) (t : SignType) (c : List Ex) (o : Outcome Unit) :
    ConfigureSpec a t c o ↔ ∃ script, (configure a t).run script = (c, o) := by
  rw [← configure_conv, Prog.conv_iff_run]

theorem configureIfNeeded_exact (a : UInt16) (t : SignType) (c : List Ex) (o : Outcome Unit) :
    ConfigureIfNeededSpec a t c o ↔ ∃ script, (configureIfNeeded a t).run script = (c, o) := by
  rw [← configureIfNeeded_conv, Prog.conv_iff_run]

theorem sendPages_exact (a : UInt16) (pages : List (List UInt8)) (c : List Ex) (o : Outcome FlipStyle)
    (hlen : (allChunkMsgs pages).length < 65536) :
    SendPagesSpec a pages c o ↔ ∃ script, (sendPages a pages).run script = (c, o) := by
  rw [← sendPages_conv hlen, Prog.conv_iff_run]

theorem shutDown_exact (a : UInt16) (c : List Ex) (o : Outcome Unit) :
    ShutDownSpec a c o ↔ ∃ script, (shutDown a).run script = (c, o) := by
  rw [← shutDown_conv, Prog.conv_iff_run]

/-- The protocol is functional: two allowed conversations with the same replies are the same
    conversation with the same outcome (the replies seen so far determine every message sent and
    the result). -/
theorem configure_spec_functional (a : UInt16) (t : SignType) (c c' : List Ex) (o o' : Outcome Unit)
    (h : ConfigureSpec a t c o) (h' : ConfigureSpec a t c' o') (hr : repliesOf c = repliesOf c') :
    c = c' ∧ o = o' :=
  (configure_conv.mpr h).functional (configure_conv.mpr h') hr

theorem sendPages_spec_functional (a : UInt16) (pages : List (List UInt8)) (c c' : List Ex)
    (o o' : Outcome FlipStyle) (hlen : (allChunkMsgs pages).length < 65536)
    (h : SendPagesSpec a pages c o) (h' : SendPagesSpec a pages c' o')
    (hr : repliesOf c = repliesOf c') : c = c' ∧ o = o' :=
  ((sendPages_conv hlen).mpr h).functional ((sendPages_conv hlen).mpr h') hr

example : ConfigureSpec 3 .max3000Side90x7 [(.hello 3, none)] .starved := .ensureStop _ _ .helloStarved

end Flipdot.C10
