/-
C01 — Frame wire codec round-trips every frame in the documented Intel-HEX shape.
`digitTable` is the digit alphabet written out, against which `hexByte_spec` states the encoder's two digits
per byte; the round trip itself is `dec_wire` of Lemmas/Frame.lean.
-/
import Flipdot.Lemmas.Frame
namespace Flipdot.C01

/-- The ASCII code of the upper-case hex digit for `n < 16`, as a table lookup. -/
def digitTable : List UInt8 := [48, 49, 50, 51, 52, 53, 54, 55, 56, 57, 65, 66, 67, 68, 69, 70]

theorem hexDigit_table : ∀ n : UInt8, n < 16 → digitTable[n.toNat]? = some (hexDigit n) := by
  apply UInt8.forall_of_fin; decide +kernel

/-- Declarative shape: a byte is written as two upper-case hex digits, high nibble first. -/
theorem hexByte_spec (b : UInt8) :
    hexByte b = [digitTable[b.toNat / 16]!, digitTable[b.toNat % 16]!] := by
  have h1 := hexDigit_table _ (nibbles_lt b).1
  have h2 := hexDigit_table _ (nibbles_lt b).2
  rw [(nibbles_toNat b).1] at h1
  rw [(nibbles_toNat b).2] at h2
  rw [getElem!_def, getElem!_def, h1, h2, hexByte]

/-- `to_bytes` is ':' followed by the hex pairs of length, address (big-endian), type, data and
    the checksum — for every frame. -/
theorem enc_shape (f : Frame) :
    enc f = 58 :: hexUpper ([UInt8.ofNat f.data.length, (f.addr >>> 8).toUInt8, f.addr.toUInt8, f.ty]
              ++ f.data ++ [lrc (payload f)]) := rfl

/-- The address is written big-endian. -/
theorem addr_big_endian (a : UInt16) :
    (a >>> 8).toUInt8.toNat = a.toNat / 256 ∧ a.toUInt8.toNat = a.toNat % 256 := addrBytes_toNat a

/-- Two characters per numeric byte plus the colon. -/
theorem enc_length (f : Frame) : (enc f).length = 1 + 2 * (f.data.length + 5) := by
  simp [enc, hexUpper_length, payload]; omega

/-- `to_bytes_with_newline` appends exactly CR LF. -/
theorem encNL_eq (f : Frame) : encNL f = enc f ++ [13, 10] := rfl

/-- The checksum makes all encoded numeric bytes sum to 0 mod 256. -/
theorem enc_sum_zero (f : Frame) :
    (payload f ++ [lrc (payload f)]).foldl (· + ·) 0 = 0 := lrc_sum_zero _

/-- With at most 255 data bytes the one-byte length field is exact (never truncates). -/
theorem len_field_exact (f : Frame) (h : f.WF) :
    (UInt8.ofNat f.data.length).toNat = f.data.length := ofNat_len_toNat _ h

/-- Decoding the encoding gives back the frame. -/
theorem dec_enc (f : Frame) (h : f.WF) : dec (enc f) = .ok f :=
  wire_false f ▸ dec_wire f h false

/-- Decoding the CRLF-terminated encoding gives back the frame. -/
theorem dec_encNL (f : Frame) (h : f.WF) : dec (encNL f) = .ok f :=
  wire_true f ▸ dec_wire f h true

/-- A data block can be placed in a frame exactly when it has at most 255 bytes. -/
theorem tryNew_ok_iff (d : List UInt8) : Data.tryNew d = .ok d ↔ d.length ≤ 255 := by
  unfold Data.tryNew
  by_cases h : d.length > 255 <;> simp [h] <;> omega

theorem tryNew_err (d : List UInt8) (h : 255 < d.length) :
    Data.tryNew d = .error (.tooLong 255 d.length) := by
  unfold Data.tryNew; simp [h]

/-- Whatever `try_new` accepts is well-formed: the `Frame.WF` hypothesis is exactly what the
    constructor guarantees. -/
theorem tryNew_wf (d d' : List UInt8) (a : UInt16) (t : UInt8) (h : Data.tryNew d = .ok d') :
    (Frame.mk a t d').WF := by
  unfold Data.tryNew at h
  by_cases hl : d.length > 255
  · simp [hl] at h
  · simp [hl] at h; subst h; unfold Frame.WF; simp; omega

-- Non-vacuity: the hypotheses are met by concrete non-trivial frames, and the doc example
-- ":02000201031FD9" (bytes written out; string literals do not reduce in the kernel) decodes.
example : (Frame.mk 2 1 [3, 31]).WF := by decide
example : enc ⟨2, 1, [3, 31]⟩ = [58, 48, 50, 48, 48, 48, 50, 48, 49, 48, 51, 49, 70, 68, 57] := by
  decide +kernel
example : dec [58, 48, 50, 48, 48, 48, 50, 48, 49, 48, 51, 49, 70, 68, 57, 13, 10] = .ok ⟨2, 1, [3, 31]⟩ := by
  decide +kernel
example : (Frame.mk 0xFFFF 0xFF (List.replicate 255 0xAB)).WF := by decide +kernel

end Flipdot.C01
