/-
C05 — Every specific message survives the trip through its wire frame.
The trip is the message round trip (`toMsg_toFrame`, Lemmas/Message.lean) around the codec round trip
(`C01.dec_enc`), which needs the frame of a well-formed message to be well-formed (`toFrame_wf`).
-/
import Flipdot.Lemmas.Message
import Flipdot.Props.C01
namespace Flipdot.C05

/-- Message → Frame → Message is the identity on every message other than the unknown wrapper. -/
theorem toMsg_toFrame (m : Msg) (h : m.Specific) : toMsg (toFrame m) = m :=
  Flipdot.toMsg_toFrame m h

/-- The frame of a message respects the 255-byte data bound whenever the message does
    (the `Data` invariant of `SendData` / `Unknown`). -/
theorem toFrame_wf (m : Msg) (h : m.WF) : (toFrame m).WF := by
  cases m <;> simp_all [toFrame, Frame.WF, Msg.WF]

/-- Through the wire encoding and back: same kind, address / offset / count, state or
    operation, and data bytes. -/
theorem wire_roundtrip (m : Msg) (hs : m.Specific) (hw : m.WF) :
    (dec (enc (toFrame m))).map toMsg = .ok m := by
  rw [C01.dec_enc _ (toFrame_wf m hw)]
  simp [Except.map, toMsg_toFrame m hs]

/-- The same with the CRLF terminator. -/
theorem wire_roundtrip_nl (m : Msg) (hs : m.Specific) (hw : m.WF) :
    (dec (encNL (toFrame m))).map toMsg = .ok m := by
  rw [C01.dec_encNL _ (toFrame_wf m hw)]
  simp [Except.map, toMsg_toFrame m hs]

theorem enc_injective (f g : Frame) (hf : f.WF) (hg : g.WF) (h : enc f = enc g) : f = g := by
  have h1 := C01.dec_enc f hf
  rw [h, C01.dec_enc g hg] at h1
  exact (Except.ok.inj h1).symm

/-- Two different specific messages never share a wire encoding. -/
theorem wire_injective (m₁ m₂ : Msg) (h₁ : m₁.Specific) (h₂ : m₂.Specific) (w₁ : m₁.WF) (w₂ : m₂.WF)
    (h : enc (toFrame m₁) = enc (toFrame m₂)) : m₁ = m₂ := by
  have hf := enc_injective _ _ (toFrame_wf m₁ w₁) (toFrame_wf m₂ w₂) h
  rw [← toMsg_toFrame m₁ h₁, ← toMsg_toFrame m₂ h₂, hf]

-- Non-vacuity: the hypotheses hold of concrete messages, including data chunks of 0 or 1 byte.
example : (Msg.sendData 16 [7]).Specific ∧ (Msg.sendData 16 [7]).WF := by decide
example : (Msg.sendData 0 []).Specific ∧ (Msg.sendData 0 []).WF := by decide
example : (dec (enc (toFrame (.sendData 16 [7])))).map toMsg = .ok (.sendData 16 [7]) := by
  decide +kernel
example : (Msg.reportState 0xFFFF .pageShowInProgress).Specific := by decide

end Flipdot.C05
