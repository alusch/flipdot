/-
C02 — Corrupted wire frames are rejected, never decoded as a different frame.
`wire f nl` is `enc f` (nl = false) or `encNL f` (nl = true).  Faults are stated structurally:
"the encoding is pre ++ x :: post, the damaged string is …", which ranges over every position.
-/
import Flipdot.Lemmas.Corrupt
namespace Flipdot.C02

theorem wire_is_encoding (f : Frame) : wire f false = enc f ∧ wire f true = encNL f :=
  ⟨wire_false f, wire_true f⟩

/-- A frame whose declared length disagrees with its data is never accepted. -/
theorem mismatch_never_ok (bs : List UInt8) (len ah al ty ck : UInt8) (data : List UInt8)
    (hn : numsOf bs = some (len :: ah :: al :: ty :: (data ++ [ck]))) (hl : data.length ≠ len.toNat)
    (g : Frame) : dec bs ≠ .ok g := by
  rw [dec_of_nums hn]
  simp [hl]

/-- A frame whose checksum does not match is never accepted. -/
theorem badsum_never_ok (bs : List UInt8) (nums : List UInt8) (hn : numsOf bs = some nums)
    (hs : bsum nums ≠ 0) (g : Frame) : dec bs ≠ .ok g := by
  intro h
  rw [(accepted bs g h).1] at hn
  exact hs (Option.some.inj hn ▸ bsum_numsF g)

/-- Single-character substitution, any position, any replacement byte: an error, or exactly the
    original frame (e.g. when only the letter case of a digit changes). -/
theorem subst_safe (f : Frame) (hf : f.WF) (nl : Bool) (pre post : List UInt8) (x c : UInt8)
    (hw : wire f nl = pre ++ x :: post) (g : Frame) (h : dec (pre ++ c :: post) = .ok g) : g = f := by
  by_cases hc : c = x
  · rw [hc, ← hw, dec_wire f hf nl] at h
    exact (Except.ok.inj h).symm
  rcases split_wire _ _ pre post x hw with ⟨rfl, rfl, rfl⟩ | ⟨dpre, dpost, hD, rfl, rfl⟩ |
    ⟨rfl, rfl, rfl, rfl⟩ | ⟨rfl, rfl, rfl, rfl⟩
  · exact absurd h (dec_ne_ok_of_numsOf_none (numsOf_head_ne c _ hc) g)
  · exact noticed_safe hf (noticed_subst c hD) (by simpa using h)
  · exact absurd h (dec_bad_term _ c 10 10 (fun e => hc e.1) (by simp) not_isHex_10 g)
  · have h' : dec (58 :: (hexUpper (numsF f) ++ [13, c])) = .ok g := by simpa using h
    exact absurd h' (dec_bad_term _ 13 c 13 (fun e => hc e.2) (by simp) not_isHex_13 g)

/-- A dropped character, any position: always rejected (what is accepted has odd length). -/
theorem delete_rejected (f : Frame) (nl : Bool) (pre post : List UInt8) (x : UInt8)
    (hw : wire f nl = pre ++ x :: post) (g : Frame) : dec (pre ++ post) ≠ .ok g :=
  dec_ne_ok_of_parity (f := f) (nl := nl) (by simp [hw]; omega) g

/-- A duplicated character, any position: always rejected, for the same reason. -/
theorem dup_rejected (f : Frame) (nl : Bool) (pre post : List UInt8) (x : UInt8)
    (hw : wire f nl = pre ++ x :: post) (g : Frame) : dec (pre ++ x :: x :: post) ≠ .ok g :=
  dec_ne_ok_of_parity (f := f) (nl := nl) (by simp [hw]; omega) g

/-- Adjacent transposition, any position: an error, or exactly the original frame (the latter only
    when the two characters were equal). -/
theorem swap_safe (f : Frame) (hf : f.WF) (nl : Bool) (pre post : List UInt8) (x y : UInt8)
    (hw : wire f nl = pre ++ x :: y :: post) (g : Frame) (h : dec (pre ++ y :: x :: post) = .ok g) :
    g = f := by
  by_cases hxy : x = y
  · subst hxy
    rw [← hw, dec_wire f hf nl] at h
    exact (Except.ok.inj h).symm
  rcases split_wire _ _ pre (y :: post) x hw with ⟨rfl, rfl, hp⟩ | ⟨dpre, dpost, hD, rfl, hp⟩ |
    ⟨rfl, rfl, rfl, hp⟩ | ⟨rfl, rfl, rfl, hp⟩
  · -- colon and first digit: the string no longer starts with the colon
    exact absurd h (dec_ne_ok_of_numsOf_none (numsOf_head_ne y _ (Ne.symm hxy)) g)
  · cases dpost with
    | nil =>
      -- last digit and CR
      cases nl <;> simp [term] at hp
      obtain ⟨rfl, rfl⟩ := hp
      have h' : dec (58 :: ((dpre ++ [13]) ++ [x, 10])) = .ok g := by simpa using h
      exact absurd h' (dec_bad_term _ x 10 13 (fun e => hxy e.1) (by simp) not_isHex_13 g)
    | cons y' dpost' =>
      obtain ⟨rfl, rfl⟩ := hp
      exact noticed_safe hf (noticed_swap hD) (by simpa using h)
  · -- CR and LF
    obtain ⟨rfl, rfl⟩ := List.cons.inj hp
    exact absurd h (dec_bad_term _ 10 13 13 (by decide) (by simp) not_isHex_13 g)
  · cases hp

/-- Truncation, any length: an error, or exactly the original frame (only when nothing but the
    optional terminator was cut off). -/
theorem prefix_safe (f : Frame) (hf : f.WF) (nl : Bool) (pre post : List UInt8)
    (hw : wire f nl = pre ++ post) (g : Frame) (h : dec pre = .ok g) : g = f :=
  dec_prefix h (hw ▸ dec_wire f hf nl)

-- Non-vacuity: the hypotheses are met by the doc example; a case change
-- is accepted as the original; a changed digit is rejected.
example : (Frame.mk 2 1 [3, 31]).WF := by decide
example : wire ⟨2, 1, [3, 31]⟩ false = [58, 48, 50, 48, 48, 48, 50, 48, 49, 48, 51, 49, 70, 68, 57] := by
  decide +kernel
example : dec [58, 48, 50, 48, 48, 48, 50, 48, 49, 48, 51, 49, 102, 68, 57] = .ok ⟨2, 1, [3, 31]⟩ := by
  decide +kernel
example : dec [58, 48, 50, 48, 48, 48, 50, 48, 49, 48, 51, 49, 69, 68, 57] = .error (.badsum 0xD9 0xDA) := by
  decide +kernel

end Flipdot.C02
