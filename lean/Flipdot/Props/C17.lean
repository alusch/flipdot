/-
C17 — Serial transport is transparent: over the wire equals directly on the bus.
Model of the whole path in Model/Pipe.lean (`viaSerial`, `runVia`).  Defined here: `Canonical`, the messages
that come back from the wire as they went; `directStrict` / `runStrict`, the direct path with the one
difference the wire makes (a message due a reply that gets none is a bus error); `Answered`, the runs on
which that difference does not show; `Transparent`, what transparency says of one operation on one bus.
-/
import Flipdot.Model.Pipe
import Flipdot.Props.C05
import Flipdot.Props.C14
import Flipdot.Props.C15
import Flipdot.Lemmas.CtrlTree
namespace Flipdot.C17

/-- Messages that survive the wire: specific ones, and unknown-frame wrappers around frames that
    really are unknown (what `Message::from` produces) — with the 255-byte data bound. -/
def Canonical (m : Msg) : Prop := m.WF ∧ toMsg (toFrame m) = m

theorem canonical_of_specific (m : Msg) (hs : m.Specific) (hw : m.WF) : Canonical m :=
  ⟨hw, C05.toMsg_toFrame m hs⟩

/-- Whatever `Message::from` yields is canonical (so everything the bridge forwards is). -/
theorem canonical_toMsg (f : Frame) (hf : f.WF) : Canonical (toMsg f) := by
  refine ⟨?_, by rw [Flipdot.toFrame_toMsg]⟩
  have h := Flipdot.toFrame_toMsg f
  cases hm : toMsg f <;> rw [hm] at h <;> simp only [Msg.WF] <;> simp only [toFrame] at h
  · rw [← h] at hf; exact hf
  · rw [h]; exact hf

theorem hexDigit_ne_lf (n : UInt8) (h : n < 16) : hexDigit n ≠ 10 := fun e => by
  -- a digit reads back as its value, a line feed as nothing
  have := hexVal_hexDigit n h
  rw [e] at this
  cases this

theorem hexUpper_no_lf (bs : List UInt8) : ∀ c ∈ hexUpper bs, c ≠ 10 := by
  rintro _ hc rfl
  cases not_isHex_10 ▸ hexUpper_all_hex bs _ hc

theorem bytesOf_byteEvents (l : List UInt8) : C15.bytesOf (byteEvents l) = l := by
  induction l with
  | nil => rfl
  | cons b l ih => exact congrArg (b :: ·) ih

theorem noLF_byteEvents (l : List UInt8) (h : ∀ c ∈ l, c ≠ 10) : C15.NoLF (byteEvents l) := by
  intro e he
  simp only [byteEvents, List.mem_map] at he
  obtain ⟨b, hb, rfl⟩ := he
  exact .inr ⟨b, rfl, h b hb⟩

/-- Reading back what `Frame::write` wrote yields the frame and consumes exactly those bytes. -/
theorem read_written (f : Frame) (hf : f.WF) (post : List REvent) :
    frameRead (byteEvents (encNL f) ++ post) = (.ok f, post) := by
  have e : byteEvents (encNL f) ++ post = byteEvents (enc f ++ [13]) ++ .byte 10 :: post := by
    simp [byteEvents, encNL]
  have hno : ∀ c ∈ enc f ++ [13], c ≠ 10 := by
    intro c hc
    simp only [enc, List.mem_append, List.mem_cons, List.not_mem_nil, or_false] at hc
    rcases hc with (rfl | hc) | rfl
    · decide
    · exact hexUpper_no_lf _ c hc
    · decide
  rw [e, C15.read_consumes_line _ post (noLF_byteEvents _ hno), bytesOf_byteEvents]
  have : enc f ++ [13] ++ [10] = encNL f := by simp [encNL]
  rw [this, C01.dec_encNL f hf]
  rfl

/-- Message → frame → bytes → line → frame → message is the identity on canonical messages. -/
theorem wire_lossless (m : Msg) (hm : Canonical m) (post : List REvent) :
    (frameRead (byteEvents (encNL (toFrame m)) ++ post)).1 = .ok (toFrame m) ∧
    (frameRead (byteEvents (encNL (toFrame m)) ++ post)).2 = post ∧ toMsg (toFrame m) = m := by
  rw [read_written _ (C05.toFrame_wf m hm.1) post]
  exact ⟨rfl, rfl, hm.2⟩

/-- Reading from an empty pipe: the end of the stream comes at once, and the empty line is no frame. -/
theorem read_nothing : frameRead (byteEvents []) = (.frameErr .invalid, []) := rfl

theorem frameWrite_unlimited (f : Frame) : frameWrite f [] = (true, encNL f, []) := by
  simp [frameWrite, writeAll]

/-- The bridge forwards each decoded frame to the bus and writes back a frame exactly when the bus
    replied. -/
theorem odk_forwards (bus : List VSign) (m : Msg) (hm : Canonical m) :
    odkStep bus { rd := byteEvents (encNL (toFrame m)), wr := [] } =
      (match busStep bus m with
       | .error e => .error e
       | .ok (bus', none) => .ok (.ok, [], bus', ⟨[], []⟩)
       | .ok (bus', some r) => .ok (.ok, encNL (toFrame r), bus', ⟨[], []⟩)) := by
  have h := wire_lossless m hm []
  simp only [List.append_nil] at h
  unfold odkStep
  simp only [h.1, h.2.1, h.2.2]
  cases hb : busStep bus m with
  | error e => rfl
  | ok br =>
    obtain ⟨bus', r⟩ := br
    cases r with
    | none => rfl
    | some x => simp [frameWrite_unlimited]

/-- A line the bridge cannot decode is a communication error: the bus is not touched and nothing
    is written back. -/
theorem odk_bad_line (bus : List VSign) (p : Port) (h : ∀ f, (frameRead p.rd).1 ≠ .ok f) :
    ∃ p', odkStep bus p = .ok (.comm, [], bus, p') := by
  cases hr : (frameRead p.rd).1 with
  | ok f => exact absurd hr (h f)
  | frameErr e => exact ⟨{ rd := (frameRead p.rd).2, wr := p.wr }, by simp only [odkStep, hr]⟩
  | ioErr => exact ⟨{ rd := (frameRead p.rd).2, wr := p.wr }, by simp only [odkStep, hr]⟩

/-- A virtual bus only ever replies to messages a reply is due for, and with a message that survives the
    wire. -/
theorem busStep_reply (bus bus' : List VSign) (m x : Msg) (h : busStep bus m = .ok (bus', some x)) :
    responseExpected m = true ∧ Canonical x := by
  obtain ⟨s, -, s', hs⟩ := (busStep_rel h).reply_of rfl
  cases vstep_step hs with
  | query hm =>
    rcases hm with rfl | rfl <;>
      exact ⟨rfl, canonical_of_specific _ (by simp [Msg.Specific]) (by simp [Msg.WF])⟩
  | request op => exact ⟨rfl, canonical_of_specific _ (by simp [Msg.Specific]) (by simp [Msg.WF])⟩

/-- What the controller sees when it talks to the bus directly, with the one difference the serial
    path makes visible: a message that is due a reply but gets none is an error. -/
def directStrict (bus : List VSign) (m : Msg) : Except Panic (Reply × List VSign) :=
  match busStep bus m with
  | .error e => .error e
  | .ok (bus', r) =>
    if responseExpected m ∧ r = none then .ok (.busError, bus') else .ok (.ok r, bus')

/-- One message through serial bus, byte pipe and bridge reaches the virtual bus unchanged, changes
    it exactly as the direct call does, and brings back exactly the bus's reply; nothing is left in
    the pipe. -/
theorem viaSerial_eq (bus : List VSign) (m : Msg) (hm : Canonical m) :
    viaSerial ⟨bus, []⟩ m =
      (match directStrict bus m with
       | .error e => .error e
       | .ok (r, bus') => .ok (r, ⟨bus', []⟩)) := by
  simp only [viaSerial, directStrict]
  rw [odk_forwards bus m hm]
  cases hb : busStep bus m with
  | error e => rfl
  | ok br =>
    obtain ⟨bus', r⟩ := br
    cases r with
    | none =>
      -- nothing is written back: where a reply is due, the read finds the pipe empty and fails
      cases he : responseExpected m <;> simp [read_nothing, remainingBytes]
    | some x =>
      -- a bus that replies owes the reply (`busStep_reply`), and the reply's line is read back whole
      obtain ⟨he, hx⟩ := busStep_reply bus bus' m x hb
      have hw := wire_lossless x hx []
      simp only [List.append_nil] at hw
      simp only [List.nil_append, he, ↓reduceIte, hw.1, hw.2.1, hw.2.2, remainingBytes]
      simp

/-- Run a program directly on the bus, treating an unanswered message that is due a reply as the
    bus error it is over the wire. -/
def runStrict {α : Type} : Prog α → List VSign → Outcome α × List VSign
  | .done a, b => (.ok a, b)
  | .fail, b => (.proto, b)
  | .panic p, b => (.panic p, b)
  | .outOfFuel, b => (.outOfFuel, b)
  | .send m k, b =>
    match directStrict b m with
    | .error p => (.panic p, b)
    | .ok (.busError, b') => (.bus, b')
    | .ok (.ok r, b') => runStrict (k r) b'

/-- The whole serial path is exactly the direct path with that one difference, for every program
    that sends canonical messages (every controller operation does): same outcome, same virtual
    signs, nothing left in the pipe. -/
theorem runVia_eq_runStrict {α : Type} (p : Prog α) (hp : p.AllSends Canonical) (bus : List VSign) :
    p.runVia ⟨bus, []⟩ = ((runStrict p bus).1, ⟨(runStrict p bus).2, []⟩) := by
  induction hp generalizing bus with
  | send m k hm _ ih =>
    simp only [Prog.runVia, runStrict, viaSerial_eq bus m hm]
    cases hd : directStrict bus m with
    | error e => rfl
    | ok rb =>
      obtain ⟨r, b'⟩ := rb
      cases r with
      | busError => rfl
      | ok x => exact ih x b'
  | _ => rfl

/-- Along the direct run of the program on the bus, every message that is due a reply gets one. -/
def Answered {α : Type} : Prog α → List VSign → Prop
  | .send m k, b =>
    match busStep b m with
    | .error _ => True
    | .ok (b', r) => (responseExpected m = true → r ≠ none) ∧ Answered (k r) b'
  | _, _ => True

theorem runStrict_eq_runOn {α : Type} (p : Prog α) (bus : List VSign) (h : Answered p bus) :
    runStrict p bus = p.runOn bus := by
  induction p generalizing bus with
  | send m k ih =>
    simp only [runStrict, Prog.runOn, directStrict]
    simp only [Answered] at h
    cases hb : busStep bus m with
    | error e => rfl
    | ok br =>
      obtain ⟨b', r⟩ := br
      rw [hb] at h
      by_cases hc : responseExpected m = true ∧ r = none
      · exact absurd hc.2 (h.1 hc.1)
      · simp only [hc, ↓reduceIte]
        exact ih r b' h.2
  | _ => rfl

/-- Transparency under a side condition: if over the direct path every message due a reply is
    answered, the serial path gives the same result and leaves the same virtual signs.  (For the
    controller operations C17_ops.lean does without the condition: a present sign always answers
    hello / query, and an operation request that is not acknowledged ends the operation.) -/
theorem transparent_partial {α : Type} (p : Prog α) (hp : p.AllSends Canonical) (bus : List VSign)
    (h : Answered p bus) :
    p.runVia ⟨bus, []⟩ = ((p.runOn bus).1, ⟨(p.runOn bus).2, []⟩) := by
  rw [runVia_eq_runStrict p hp bus, runStrict_eq_runOn p bus h]

/-- The statement of transparency for one operation `p` on one virtual bus: the serial path
    succeeds exactly when the direct path does (returning the same value), leaves the virtual signs
    in the same state, type and pages, and leaves nothing unread in the pipe. -/
def Transparent {α : Type} (p : Prog α) (bus : List VSign) : Prop :=
  (∀ x, (p.runVia ⟨bus, []⟩).1 = .ok x ↔ (p.runOn bus).1 = .ok x) ∧
  (p.runVia ⟨bus, []⟩).2.bus = (p.runOn bus).2 ∧ (p.runVia ⟨bus, []⟩).2.pending = []

theorem Transparent.of_eq {α : Type} {p : Prog α} {bus : List VSign}
    (h : p.runVia ⟨bus, []⟩ = ((p.runOn bus).1, ⟨(p.runOn bus).2, []⟩)) : Transparent p bus := by
  unfold Transparent
  rw [h]
  exact ⟨fun _ => Iff.rfl, rfl, rfl⟩

theorem canonical_of_sent {a : UInt16} {m : Msg} (h : Sent a m) : Canonical m := by
  cases h <;> refine canonical_of_specific _ (by simp [Msg.Specific]) ?_ <;> simp only [Msg.WF] <;> omega

theorem canonical_of_ctrl {α : Type} {a : UInt16} {p : Prog α} (h : Ctrl a p) : p.AllSends Canonical :=
  h.sends.mono fun _ => canonical_of_sent

/-- `configure` and `send_pages` over the serial path are exactly their direct runs, up to the
    treatment of unanswered messages. -/
theorem configure_via (a : UInt16) (t : SignType) (bus : List VSign) :
    (configure a t).runVia ⟨bus, []⟩ =
      ((runStrict (configure a t) bus).1, ⟨(runStrict (configure a t) bus).2, []⟩) :=
  runVia_eq_runStrict _ (canonical_of_ctrl (ctrl_configure a t)) bus

theorem sendPages_via (a : UInt16) (pages : List (List UInt8)) (bus : List VSign) :
    (sendPages a pages).runVia ⟨bus, []⟩ =
      ((runStrict (sendPages a pages) bus).1, ⟨(runStrict (sendPages a pages) bus).2, []⟩) :=
  runVia_eq_runStrict _ (canonical_of_ctrl (ctrl_sendPages a pages)) bus

-- A hello over the wire to a present sign.
example : (match viaSerial ⟨[VSign.new 3 .manual], []⟩ (.hello 3) with
    | .ok (r, far) => r == .ok (some (.reportState 3 .unconfigured)) && far.pending == [] &&
        far.bus == [VSign.new 3 .manual]
    | .error _ => false) = true := by
  decide +kernel
example : Canonical (.hello 3) := canonical_of_specific _ (by decide) (by decide)

end Flipdot.C17
