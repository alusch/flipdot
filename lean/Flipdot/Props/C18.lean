/-
C18 — Serial bus pacing: 30 ms after a data chunk, 100 ms after an in-progress report.
The model records `sleep ms` events; that the real `thread::sleep` calls happen (and how long they
take) is measured by the correspondence check with a monotonic clock at the port boundaries.
-/
import Flipdot.Props.C16
namespace Flipdot.C18

theorem delayAfterSend_iff (m : Msg) (ms : Nat) :
    delayAfterSend m = some ms ↔ (∃ off d, m = .sendData off d) ∧ ms = 30 := by
  cases m <;> simp [delayAfterSend]
  exact eq_comm

theorem delayAfterReceive_iff (r : Msg) (ms : Nat) :
    delayAfterReceive r = some ms ↔
      (∃ a, r = .reportState a .pageLoadInProgress ∨ r = .reportState a .pageShowInProgress) ∧ ms = 100 := by
  cases r with
  | reportState a s => cases s <;> simp [delayAfterReceive] <;> exact eq_comm
  | _ => simp [delayAfterReceive]

/-- The pause after the write: 30 ms, and only after a data chunk. -/
theorem sleepEv_send (m : Msg) :
    (sleepEv (delayAfterSend m) = [.sleep 30] ↔ ∃ off d, m = .sendData off d) ∧
    (sleepEv (delayAfterSend m) = [] ↔ ¬ ∃ off d, m = .sendData off d) := by
  cases m <;> simp [delayAfterSend, sleepEv]

/-- The pause after the read: 100 ms, and only after an in-progress report. -/
theorem sleepEv_recv (r : Msg) :
    (sleepEv (delayAfterReceive r) = [.sleep 100] ↔
      ∃ a, r = .reportState a .pageLoadInProgress ∨ r = .reportState a .pageShowInProgress) ∧
    (sleepEv (delayAfterReceive r) = [] ∨ sleepEv (delayAfterReceive r) = [.sleep 100]) := by
  cases hd : delayAfterReceive r with
  | none =>
    refine ⟨⟨nofun, fun h => ?_⟩, .inl rfl⟩
    cases hd ▸ (delayAfterReceive_iff r 100).mpr ⟨h, rfl⟩
  | some ms =>
    obtain ⟨h, rfl⟩ := (delayAfterReceive_iff r ms).mp hd
    exact ⟨⟨fun _ => h, fun _ => rfl⟩, .inr rfl⟩

/-- After a successful write, the pause before the next port operation (the read, or returning so
    that the next message can be written) is 30 ms exactly when the message is a data chunk, and
    there is none otherwise. -/
theorem sleep_after_send_iff (m : Msg) (p : Port) (hw : (frameWrite (toFrame m) p.wr).1 = true) :
    ∃ tail, (serialStep m p).1 =
      .wrote (encNL (toFrame m)) true :: (sleepEv (delayAfterSend m) ++ tail) ∧
      (∀ e ∈ tail, ∀ ms, e = .sleep ms → ms = 100) ∧
      (sleepEv (delayAfterSend m) = [.sleep 30] ↔ ∃ off d, m = .sendData off d) ∧
      (sleepEv (delayAfterSend m) = [] ↔ ¬ ∃ off d, m = .sendData off d) := by
  have hd := (C15.write_only_the_encoding (toFrame m) p.wr).2 hw
  refine ⟨_, by rw [C16.events_shape, hw, hd]; rfl, ?_, sleepEv_send m⟩
  rintro _ h ms rfl
  split at h
  · cases hr : (frameRead p.rd).1 <;> simp [hr, C16.mem_sleepEv] at h
    exact ((delayAfterReceive_iff _ _).mp h).2
  · cases h

/-- After receiving a reply, the pause before returning is 100 ms exactly when the reply is a
    'page load in progress' or 'page show in progress' report (from any address), none otherwise. -/
theorem sleep_after_recv_iff (m : Msg) (p : Port) (f : Frame)
    (hw : (frameWrite (toFrame m) p.wr).1 = true) (he : responseExpected m = true)
    (hr : (frameRead p.rd).1 = .ok f) :
    (serialStep m p).1 = .wrote (encNL (toFrame m)) true ::
      (sleepEv (delayAfterSend m) ++ .readLine :: sleepEv (delayAfterReceive (toMsg f))) ∧
    (sleepEv (delayAfterReceive (toMsg f)) = [.sleep 100] ↔
      ∃ a, toMsg f = .reportState a .pageLoadInProgress ∨ toMsg f = .reportState a .pageShowInProgress) ∧
    (sleepEv (delayAfterReceive (toMsg f)) = [] ∨ sleepEv (delayAfterReceive (toMsg f)) = [.sleep 100]) :=
  ⟨by rw [C16.events_shape, hw, (C15.write_only_the_encoding _ _).2 hw, he, hr]; rfl, sleepEv_recv _⟩

/-- Every pause has its reason: 30 ms after the completed write of a data chunk, 100 ms after a decoded
    in-progress report.  The "no pause" theorems below and `no_other_wait` are its contrapositives. -/
theorem sleep_justified {m : Msg} {p : Port} {n : Nat} (h : .sleep n ∈ (serialStep m p).1) :
    (frameWrite (toFrame m) p.wr).1 = true ∧
      ((n = 30 ∧ ∃ off d, m = .sendData off d) ∨
       (n = 100 ∧ responseExpected m = true ∧ ∃ f, (frameRead p.rd).1 = .ok f ∧
          ∃ a, toMsg f = .reportState a .pageLoadInProgress ∨ toMsg f = .reportState a .pageShowInProgress)) := by
  simp only [C16.mem_events, C16.mem_tail_events, reduceCtorEq, false_or, PortEvent.sleep.injEq] at h
  obtain ⟨hw, ⟨ms, hd, rfl⟩ | ⟨he, f, ms, hf, hd, rfl⟩⟩ := h
  · exact ⟨hw, .inl ((delayAfterSend_iff _ _).mp hd).symm⟩
  · exact ⟨hw, .inr ⟨((delayAfterReceive_iff _ _).mp hd).2, he, f, hf, ((delayAfterReceive_iff _ _).mp hd).1⟩⟩

/-- No reply due, or the reply could not be read: no 100 ms pause. -/
theorem no_recv_sleep_without_reply (m : Msg) (p : Port)
    (h : responseExpected m = false ∨ ∀ f, (frameRead p.rd).1 ≠ .ok f) :
    .sleep 100 ∉ (serialStep m p).1 := by
  intro hs
  obtain ⟨-, ⟨h30, -⟩ | ⟨-, he, f, hf, -⟩⟩ := sleep_justified hs
  · cases h30
  · exact h.elim (by simp [he]) (· f hf)

/-- A failed write is followed by no pause at all. -/
theorem no_sleep_after_failed_write (m : Msg) (p : Port) (h : (frameWrite (toFrame m) p.wr).1 = false) :
    ∀ ms, .sleep ms ∉ (serialStep m p).1 :=
  fun _ hs => by have := (sleep_justified hs).1; simp [h] at this

example : delayAfterSend (.sendData 16 [1, 2]) = some 30 := rfl
example : delayAfterReceive (.reportState 9 .pageShowInProgress) = some 100 := rfl
example : delayAfterReceive (.reportState 9 .pageShown) = none := rfl

end Flipdot.C18
