/-
Static tie for libs/serial/src/serial_sign_bus.rs, libs/serial/src/serial_port.rs and the
constructor of libs/testing/src/odk.rs: the regenerated classification tables, timeouts and port
settings (`Flipdot.Generated.Serial`) equal the model's.  Obligations of `./check C16`, `C17`,
`C18` and `C20`.
-/
import Flipdot.Generated.Serial
namespace Flipdot.Tie.Serial
open Flipdot Flipdot.Generated.Serial

theorem respExpected_kind : ∀ k : Kind, respExpected k = responseExpected (k.build ⟨0, 0, []⟩) := by
  apply Kind.forall_of_all; decide

theorem delaySend_kind : ∀ k : Kind, delaySend k = delayAfterSend (k.build ⟨0, 0, []⟩) := by
  apply Kind.forall_of_all; decide

theorem delayReceive_kind : ∀ k : Kind, delayReceive k = delayAfterReceive (k.build ⟨0, 0, []⟩) := by
  apply Kind.forall_of_all; decide

/-- `response_expected` as regenerated from the source is the model's, on every message. -/
theorem respExpected_eq (m : Msg) : respExpected m.kind = responseExpected m := by
  rw [respExpected_kind, responseExpected_kind]

/-- `delay_after_send` likewise (C18: 30 ms after a data chunk and after nothing else). -/
theorem delaySend_eq (m : Msg) : delaySend m.kind = delayAfterSend m := by
  rw [delaySend_kind, delayAfterSend_kind]

/-- `delay_after_receive` likewise (C18: 100 ms after the two in-progress reports only). -/
theorem delayReceive_eq (m : Msg) : delayReceive m.kind = delayAfterReceive m := by
  rw [delayReceive_kind, delayAfterReceive_kind]

/-- The five settings written by `configure_port` are the model's 19200 8N1, no flow control. -/
theorem portSettings_eq : portSettings = luminatorSettings := by decide

/-- The constructors' read timeouts are the model's. -/
theorem serialTryNew_eq (d : Device) (f : FailAt) : serialTryNew d f = configurePort d serialTimeoutMs f := rfl
theorem odkTryNew_eq (d : Device) (f : FailAt) : odkTryNew d f = configurePort d odkTimeoutMs f := rfl

/-- `configure_port` with the regenerated settings in place of the model's literal. -/
theorem configurePort_src (d : Device) (t : Nat) :
    configurePort d t .never = (true, { settings := portSettings, timeout := some t }) := by
  rw [portSettings_eq]; rfl

end Flipdot.Tie.Serial
