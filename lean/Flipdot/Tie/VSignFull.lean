/-
Static tie for libs/testing/src/virtual_sign_bus.rs, statement level: every method of
`impl VirtualSign`, compiled into a state-passing function by `translate_vsign.py`
(`Flipdot.Generated.VSignFull`, regenerated from /repo on every run), is the hand-written model:
`processMessage s m = vstep s m` for every sign state and every message, and the bus loop is
`busStep`.  Obligations of `./check C13` only (`EXTRA_TOPICS` in /verif/check), although C08, C12, C14, C17 and C19
are about the same model.
-/
import Flipdot.Generated.VSignFull
import Flipdot.Props.C14
-- Some simp arguments serve other spellings of the source only (its behaviour-preserving rewrites must keep checking).
set_option linter.unusedSimpArgs false
namespace Flipdot.Tie.VSignFull
open Flipdot
namespace G
export Flipdot.Generated.VSignFull (new flushPixels dataChunksSent reset finishReset goodbye loadNextPage
  pixelsComplete queryState receiveConfig receivePixels sendData showLoadedPage startReset processMessage
  busProcessMessage)
end G

/-- Equality of two state-passing functions on a sign whose fields are exposed: split every `if` / `match`
    on both sides and close each combination of cases by simplification and linear arithmetic.  Used for the
    two handlers that are a nest of tests on the fields (`flushPixels_eq`, `reset_eq`), so that behaviour-preserving
    rewrites of the source (early returns, conditions negated or reordered, `match` ↔ `if`) keep checking. -/
macro "vs_cases" : tactic => `(tactic|
  (repeat' (first
     | rfl
     | (split <;> (try simp_all) <;> (try omega)))))

theorem new_eq (a : UInt16) (st : FlipStyle) : G.new a st = VSign.new a st := rfl

/-- `flush_pixels`. -/
theorem flushPixels_eq (s : VSign) : G.flushPixels s = .ok (s.flush, ()) := by
  unfold Generated.VSignFull.flushPixels VSign.flush
  obtain ⟨addr, style, state, pages, pending, chunks, w, h, st⟩ := s
  simp only [List.isEmpty_iff]
  vs_cases

/-- `reset`. -/
theorem reset_eq (s : VSign) : G.reset s = .ok (s.reset, ()) := by
  unfold Generated.VSignFull.reset VSign.reset
  first | rfl | (obtain ⟨addr, style, state, pages, pending, chunks, w, h, st⟩ := s; vs_cases)

/-- `data_chunks_sent`. -/
theorem dataChunksSent_eq (s : VSign) (n : UInt16) : G.dataChunksSent s n = .ok (s.chunksSent n, none) := by
  unfold Generated.VSignFull.dataChunksSent VSign.chunksSent
  simp only [flushPixels_eq, bindE]
  obtain ⟨addr, style, state, pages, pending, chunks, w, h, st⟩ := s
  by_cases hc : chunks = n.toNat
  · subst hc; cases state <;> simp [State.afterCount]
  · have hb : (chunks == n.toNat) = false := by simpa using hc
    have hc' : ¬ n.toNat = chunks := fun h => hc h.symm
    cases state <;> simp [hc, hc', hb, State.afterCount]

/-- `slice[i]` in bounds. -/
theorem idxE_lt {β : Type} {l : List UInt8} {i : Nat} (h : i < l.length) (k : UInt8 → Except Panic β) :
    idxE l i k = k (l.getD i 0) := by
  simp only [idxE, List.getElem?_eq_getElem h, List.getD_eq_getElem?_getD, Option.getD_some]

/-- The configuration branch of `send_data` on a 16-byte block: the indexing and slicing the source
    does never panic there and yield the model's `configDims`. -/
theorem sendData_config (s : VSign) (data : List UInt8) (h : data.length = 16) :
    (idxE data 0 fun b1 =>
      if b1 = (0x04 : UInt8) then
        sliceE data 5 9 fun xs2 => idxE data 4 fun b3 => liftE (SignType.fromBytes data) fun p =>
          (.ok ({ s with signType := p.toOption, w := (xs2.map (·.toNat)).sum, h := b3.toNat, chunks := satSucc s.chunks }, none)
            : Except Panic (VSign × Option Msg))
      else if b1 = (0x08 : UInt8) then
        idxE data 7 fun b5 => idxE data 5 fun b6 => liftE (SignType.fromBytes data) fun p =>
          .ok ({ s with signType := p.toOption, w := b5.toNat, h := b6.toNat, chunks := satSucc s.chunks }, none)
      else .ok (s, none))
    = (match configDims data with
       | .error e => .error e
       | .ok none => .ok (s, none)
       | .ok (some (w, h)) =>
         match SignType.fromBytes data with
         | .error e => .error e
         | .ok r => .ok ({ s with signType := (match r with | .ok t => some t | .error _ => none), w := w, h := h,
                                  chunks := satSucc s.chunks }, none)) := by
  have hs : (((data.drop 5).take (9 - 5)).map (·.toNat)).sum =
      (data.getD 5 0).toNat + (data.getD 6 0).toNat + (data.getD 7 0).toNat + (data.getD 8 0).toNat := by
    have g : ∀ i (hi : i < data.length), data[i] = data.getD i 0 := fun i hi => by
      rw [List.getD_eq_getElem?_getD, List.getElem?_eq_getElem hi]; rfl
    rw [List.drop_eq_getElem_cons (by omega : 5 < data.length), List.drop_eq_getElem_cons (by omega : 6 < data.length),
      List.drop_eq_getElem_cons (by omega : 7 < data.length), List.drop_eq_getElem_cons (by omega : 8 < data.length)]
    simp [g, Nat.add_assoc]
  rw [configDims_len16 data h]
  simp only [idxE_lt (by omega : 0 < data.length), idxE_lt (by omega : 4 < data.length),
    idxE_lt (by omega : 5 < data.length), idxE_lt (by omega : 7 < data.length), sliceE, h, hs, liftE]
  generalize SignType.fromBytes data = fb
  split
  · rcases fb with e | (e | t) <;> simp [Except.toOption]
  · split
    · rcases fb with e | (e | t) <;> simp [Except.toOption]
    · rfl

/-- `send_data`. -/
theorem sendData_eq (s : VSign) (off : UInt16) (d : List UInt8) :
    G.sendData s off d = (match s.sendData off d with | .error e => .error e | .ok s' => .ok (s', none)) := by
  unfold Generated.VSignFull.sendData VSign.sendData
  by_cases hc : s.state = .configInProgress ∧ off = 0 ∧ d.length = 16
  · obtain ⟨h1, h2, h3⟩ := hc
    rw [if_pos (show (s.state = .configInProgress ∧ off = 0) ∧ d.length = 16 from ⟨⟨h1, h2⟩, h3⟩),
      if_pos (show s.state = .configInProgress ∧ off = 0 ∧ d.length = 16 from ⟨h1, h2, h3⟩)]
    rw [sendData_config s d h3]
    cases configDims d with
    | error e => rfl
    | ok o =>
      cases o with
      | none => rfl
      | some wh =>
        obtain ⟨w, h⟩ := wh
        simp only
        cases SignType.fromBytes d <;> rfl
  · have hc' : ¬ ((s.state = .configInProgress ∧ off = 0) ∧ d.length = 16) := by
      rintro ⟨⟨a, b⟩, c⟩; exact hc ⟨a, b, c⟩
    simp only [hc, hc', ↓reduceIte]
    by_cases hp : s.state = .pixelsInProgress
    · by_cases ho : off = 0
      · simp [hp, ho, flushPixels_eq, bindE, VSign.appendChunk]
      · simp [hp, ho, VSign.appendChunk]
    · simp [hp]

/-- `VirtualSign::process_message` compiled from the source is the model's `vstep`, for every sign
    state (reachable or not) and every message. -/
theorem processMessage_eq (s : VSign) (m : Msg) : G.processMessage s m = vstep s m := by
  cases m with
  | hello a | queryState a | pixelsComplete a =>
    by_cases h : a = s.addr
    · subst h
      obtain ⟨addr, style, state, pages, pending, chunks, w, h', st⟩ := s
      simp only [Generated.VSignFull.processMessage, vstep, ↓reduceIte, true_and]
      cases state <;> cases style <;> rfl
    · simp [Generated.VSignFull.processMessage, vstep, h]
  | requestOp a o =>
    by_cases h : a = s.addr
    · subst h
      rw [vstep_request]
      obtain ⟨addr, style, state, pages, pending, chunks, w, h', st⟩ := s
      cases o <;> simp only [Generated.VSignFull.processMessage, ↓reduceIte] <;> cases state <;> rfl
    · cases o <;> simp [Generated.VSignFull.processMessage, vstep, h]
  | sendData off d =>
    simp only [Generated.VSignFull.processMessage, vstep, sendData_eq, bindE]
    cases s.sendData off d <;> rfl
  | chunksSent n =>
    simp only [Generated.VSignFull.processMessage, vstep, dataChunksSent_eq, bindE]
  | goodbye a =>
    simp only [Generated.VSignFull.processMessage, vstep, Generated.VSignFull.goodbye, reset_eq, bindE]
  | reportState a st | ackOp a o | unknown f => rfl

/-- The bus loop is the model's `busStep`. -/
theorem busProcessMessage_eq (bus : List VSign) (m : Msg) : G.busProcessMessage bus m = busStep bus m := by
  induction bus with
  | nil => rfl
  | cons s rest ih =>
    simp only [Generated.VSignFull.busProcessMessage, busStep, processMessage_eq, ih]
    cases hv : vstep s m with
    | error e => rfl
    | ok p =>
      obtain ⟨s', r⟩ := p
      cases r with
      | some r => rfl
      | none => simp only []; cases busStep rest m with
        | error e => rfl
        | ok q => rfl

/-! ### C12, C13 and C14 stated of the source text

With `processMessage_eq` / `busProcessMessage_eq` the property theorems about the model's `vstep` / `busStep` are theorems
about `VirtualSign::process_message` / `VirtualSignBus::process_message` as compiled from the source. -/

/-- C12: for every sign state (reachable or not) and every message, the source's `process_message` does not panic. -/
theorem src_no_panic (s : VSign) (m : Msg) : ∃ r, G.processMessage s m = .ok r := by
  rw [processMessage_eq]; exact C12.vstep_no_panic s m

/-- C12: nor does the bus loop, for any number of signs in any states. -/
theorem src_bus_no_panic (bus : List VSign) (m : Msg) : ∃ r, G.busProcessMessage bus m = .ok r := by
  rw [busProcessMessage_eq]; exact C12.busStep_no_panic bus m

/-- C13: the reply and the reported state are those of the documented sign-side machine. -/
theorem src_step_refines (s : VSign) (m : Msg) :
    ∃ s', G.processMessage s m = .ok (s', (C13.specStep s m).1) ∧ s'.state = (C13.specStep s m).2 := by
  rw [processMessage_eq]; exact C13.step_refines s m

/-- C14: with distinct addresses every sign on the bus ends up exactly where it would be had it received the message
    alone (through its own `process_message`). -/
theorem src_each_sign_as_if_alone (bus bus' : List VSign) (m : Msg) (r : Option Msg)
    (hd : (bus.map (·.addr)).Nodup) (h : G.busProcessMessage bus m = .ok (bus', r)) :
    ∀ (i : Nat) (s : VSign), bus[i]? = some s →
      ∃ s' r', G.processMessage s m = .ok (s', r') ∧ bus'[i]? = some s' := by
  rw [busProcessMessage_eq] at h
  intro i s hs
  obtain ⟨s', r', h1, h2⟩ := C14.each_sign_as_if_alone bus bus' m r hd h i s hs
  exact ⟨s', r', by rw [processMessage_eq]; exact h1, h2⟩

end Flipdot.Tie.VSignFull
