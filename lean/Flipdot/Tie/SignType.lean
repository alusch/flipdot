/-
Static tie for libs/core/src/sign_type.rs: the regenerated tables (`Flipdot.Generated.SignType`)
equal the model's `SignType.ofCode?`, `SignType.dims`, `SignType.toBytes` and the length guard of
`SignType.fromBytes` on their whole domain.  Obligations of `./check C08` and `C19`.
-/
import Flipdot.Generated.SignType
import Flipdot.Props.C19
namespace Flipdot.Tie.SignType
open Flipdot

/-- The source's `(family, id)` match is, like the model's (`C19.ofCode?_eq_some_iff`), the inverse of
    `C19.code`, in whatever order its arms come; so the two agree on all 65536 pairs. -/
theorem ofCode_eq (fam id : UInt8) : Generated.SignType.ofCode fam id = SignType.ofCode? fam id := by
  refine Option.ext fun t => (Iff.trans ⟨fun h => ?_, fun h => ?_⟩ (C19.ofCode?_eq_some_iff fam id t).symm)
  · unfold Generated.SignType.ofCode at h
    iterate 11 (rcases C19.ite_some_eq h with ⟨⟨rfl, rfl⟩, rfl⟩ | h; · rfl)
    cases h
  · cases h; cases t <;> rfl

theorem dims_eq (t : SignType) : Generated.SignType.dims t = t.dims := by cases t <;> rfl

theorem toBytes_eq (t : SignType) : Generated.SignType.toBytes t = t.toBytes := by cases t <;> rfl

/-- The guard length and the length reported in the error are the model's 16. -/
theorem configLen_eq : Generated.SignType.configLen = 16 ∧ Generated.SignType.configLenReported = 16 := by
  decide

/-- `from_bytes` as the source spells it: length guard, then the regenerated match. -/
def srcFromBytes (bs : List UInt8) : Except Panic (Except SignTypeErr SignType) :=
  if bs.length ≠ Generated.SignType.configLen then
    .ok (.error (.wrongLen Generated.SignType.configLenReported bs.length))
  else
    match bs[0]?, bs[1]? with
    | some fam, some id =>
      match Generated.SignType.ofCode fam id with
      | some t => .ok (.ok t)
      | none => .ok (.error .unknownConfig)
    | _, _ => .error .index

theorem src_fromBytes (bs : List UInt8) : srcFromBytes bs = SignType.fromBytes bs := by
  unfold srcFromBytes SignType.fromBytes
  simp only [configLen_eq.1, configLen_eq.2, ofCode_eq]
  split
  · rfl
  · cases bs[0]? <;> cases bs[1]? <;> rfl

/-- So the source's own tables round-trip every supported type (C19's first sentence). -/
theorem src_roundtrip (t : SignType) : srcFromBytes (Generated.SignType.toBytes t) = .ok (.ok t) := by
  rw [src_fromBytes, toBytes_eq]; cases t <;> decide

end Flipdot.Tie.SignType
