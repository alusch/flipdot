/-
Static tie for libs/core/src/message.rs: the tables that `translate.py` regenerates from the Rust
source on every run (`Flipdot.Generated.Message`) equal the hand-written model (`toMsg`, `toFrame`)
on their whole domain.  Theorems here are the obligations `./check C04`, `C05`, `C16` and `C17` add to
those of `Props/`; every run re-proves them against the tables it has just regenerated.
-/
import Flipdot.Generated.Message
import Flipdot.Lemmas.Message
namespace Flipdot.Tie.Message
open Flipdot Flipdot.Generated.Message

/-- `Message::from(Frame)` as the source spells it: the outer match on the data length, the three
    generated inner tables, and the field copying of `Kind.build`. -/
def srcToMsg (f : Frame) : Msg :=
  (match f.data with
   | [] => decodeKind0 f.ty
   | [b] => decodeKind1 f.ty b
   | _ :: _ :: _ => decodeKindN f.ty).build f

/-- `Frame::from(Message)` as the source spells it. -/
def srcToFrame (m : Msg) : Frame := (encodeShape m.kind).apply m.fields

/-- The model's encoder on a message built from a frame's fields is the source's layout table. -/
theorem toFrame_build (k : Kind) (f : Frame) : toFrame (k.build f) = (encodeShape k).apply f := by
  cases k with
  | report s => cases s <;> rfl
  | request o => cases o <;> rfl
  | ack o => cases o <;> rfl
  | _ => rfl

/-- The regenerated encoder is the model's `toFrame` on every message. -/
theorem src_toFrame (m : Msg) : srcToFrame m = toFrame m := by
  rw [srcToFrame, ← toFrame_build, Msg.build_fields]

/-- The source's encoder lays a message of kind `k` out as the frame `f` itself. -/
def Fits (k : Kind) (f : Frame) : Prop := (encodeShape k).apply f = f

theorem fits_ite {c : Prop} [Decidable c] {x y : Kind} {f : Frame} (hx : c → Fits x f)
    (hy : ¬c → Fits y f) : Fits (if c then x else y) f := by
  split
  · exact hx ‹_›
  · exact hy ‹_›

/-- Every arm of the source's decoder names a kind that the source's encoder lays out as the very
    frame the arm matched; the catch-all wraps the frame.  The proof walks the arms in the order the
    source has them; an arm tests the type, the data byte, or both. -/
theorem fits_srcToMsg (a : UInt16) (ty : UInt8) (d : List UInt8) :
    Fits (match d with
      | [] => decodeKind0 ty
      | [b] => decodeKind1 ty b
      | _ :: _ :: _ => decodeKindN ty) ⟨a, ty, d⟩ := by
  match d with
  | [] =>
    unfold decodeKind0
    repeat refine fits_ite (fun h => by first | (obtain ⟨rfl, rfl⟩ := h; rfl) | (subst h; rfl)) fun _ => ?_
    rfl
  | [b] =>
    unfold decodeKind1
    repeat refine fits_ite (fun h => by first | (obtain ⟨rfl, rfl⟩ := h; rfl) | (subst h; rfl)) fun _ => ?_
    rfl
  | _ :: _ :: _ =>
    unfold decodeKindN
    repeat refine fits_ite (fun h => by first | (obtain ⟨rfl, rfl⟩ := h; rfl) | (subst h; rfl)) fun _ => ?_
    rfl

theorem toFrame_srcToMsg (f : Frame) : toFrame (srcToMsg f) = f := by
  rw [srcToMsg, toFrame_build]
  exact fits_srcToMsg f.addr f.ty f.data

theorem srcToMsg_toFrame (m : Msg) (h : m.Specific) : srcToMsg (toFrame m) = m := by
  cases m with
  | unknown f => exact h.elim
  | sendData a d => match d with
    | [] | [_] | _ :: _ :: _ => rfl
  | reportState a s => cases s <;> rfl
  | requestOp a o => cases o <;> rfl
  | ackOp a o => cases o <;> rfl
  | _ => rfl

/-- The regenerated decoder is the model's `toMsg` on every frame: both are two-sided inverses of
    the same encoder. -/
theorem src_toMsg (f : Frame) : srcToMsg f = toMsg f :=
  toMsg_unique srcToMsg srcToMsg_toFrame toFrame_srcToMsg f

/-- Consequently the round trip through the *regenerated* tables is the identity (C04's first
    sentence, stated for the source's own tables). -/
theorem src_roundtrip (f : Frame) : srcToFrame (srcToMsg f) = f := by
  rw [src_toFrame, toFrame_srcToMsg]

end Flipdot.Tie.Message
