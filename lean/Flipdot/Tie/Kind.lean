/-
The finite "kind" of a protocol message: everything about a `Msg` except the address / offset /
count field, the payload of a data chunk and the frame wrapped by `unknown`.  The tables that the
translator (`/verif/translate.py`) extracts from the Rust sources are functions over `Kind`, so
that their agreement with the model is a finite statement that `decide` settles (`Kind.forall_of_all`); the
lemmas here show that the model's functions are determined by the kind: the serial bus's three
classifications (`*_kind`) and `toMsg` (`toMsg_eq_build`; Tie/Message.lean ties the decoder by uniqueness of
the inverse of `toFrame` instead and needs `Msg.build_fields` only).  This `Kind` has all ten kinds; `C04.Kind`
(Props/C04.lean) is the seven addressed one-byte ones.
-/
import Flipdot.Lemmas.Message
import Flipdot.Model.Serial
namespace Flipdot

inductive Kind where
  | data | chunks | hello | query | goodbye
  | report (s : State) | request (o : Op) | ack (o : Op)
  | pixelsComplete | unknown
  deriving DecidableEq, Repr

def Kind.all : List Kind :=
  [.data, .chunks, .hello, .query, .goodbye, .pixelsComplete, .unknown]
  ++ State.all.map .report ++ Op.all.map .request ++ Op.all.map .ack

theorem State.mem_all (s : State) : s ∈ State.all := by cases s <;> decide
theorem Op.mem_all (o : Op) : o ∈ Op.all := by cases o <;> decide

theorem State.forall_of_all {p : State → Prop} (h : ∀ s ∈ State.all, p s) : ∀ s, p s :=
  fun s => h s (State.mem_all s)
theorem Op.forall_of_all {p : Op → Prop} (h : ∀ o ∈ Op.all, p o) : ∀ o, p o :=
  fun o => h o (Op.mem_all o)

theorem Kind.mem_all (k : Kind) : k ∈ Kind.all := by
  unfold Kind.all
  cases k with
  | report s => simp [State.mem_all]
  | request o => simp [Op.mem_all]
  | ack o => simp [Op.mem_all]
  | _ => simp

/-- A statement about every kind follows from checking the finite list. -/
theorem Kind.forall_of_all {p : Kind → Prop} (h : ∀ k ∈ Kind.all, p k) : ∀ k, p k :=
  fun k => h k (Kind.mem_all k)

def Msg.kind : Msg → Kind
  | .sendData _ _ => .data
  | .chunksSent _ => .chunks
  | .hello _ => .hello
  | .queryState _ => .query
  | .goodbye _ => .goodbye
  | .reportState _ s => .report s
  | .requestOp _ o => .request o
  | .ackOp _ o => .ack o
  | .pixelsComplete _ => .pixelsComplete
  | .unknown _ => .unknown

/-- The message of kind `k` made from the fields of frame `f`, as `Message::from(Frame)` builds it:
    address field, payload, or the whole frame. -/
def Kind.build (k : Kind) (f : Frame) : Msg :=
  match k with
  | .data => .sendData f.addr f.data
  | .chunks => .chunksSent f.addr
  | .hello => .hello f.addr
  | .query => .queryState f.addr
  | .goodbye => .goodbye f.addr
  | .report s => .reportState f.addr s
  | .request o => .requestOp f.addr o
  | .ack o => .ackOp f.addr o
  | .pixelsComplete => .pixelsComplete f.addr
  | .unknown => .unknown f

@[simp] theorem Kind.kind_build (k : Kind) (f : Frame) : (k.build f).kind = k := by
  cases k <;> rfl

/-- The frame-shaped carrier of a message's variable fields: address / offset / count, payload, or the
    wrapped frame itself. -/
def Msg.fields : Msg → Frame
  | .sendData off d => ⟨off, 0, d⟩
  | .chunksSent n => ⟨n, 0, []⟩
  | .hello a | .queryState a | .goodbye a | .pixelsComplete a => ⟨a, 0, []⟩
  | .reportState a _ | .requestOp a _ | .ackOp a _ => ⟨a, 0, []⟩
  | .unknown f => f

@[simp] theorem Msg.build_fields (m : Msg) : m.kind.build m.fields = m := by
  cases m <;> rfl

/-- The kind `toMsg` assigns depends on the type and the data only. -/
def kindOf (ty : UInt8) (data : List UInt8) : Kind := (toMsg ⟨0, ty, data⟩).kind

/-- `toMsg` is parametric in the address: it classifies by `(type, data)` and then copies the
    frame's fields. -/
theorem toMsg_eq_build (f : Frame) : toMsg f = (kindOf f.ty f.data).build f := by
  obtain ⟨a, ty, d⟩ := f
  unfold kindOf
  fun_cases toMsg ⟨a, ty, d⟩ <;> simp_all [toMsg, Kind.build, Msg.kind]

/-- With two or more data bytes only the type matters. -/
theorem kindOf_long (ty x y : UInt8) (r : List UInt8) : kindOf ty (x :: y :: r) = kindOf ty [0, 0] := by
  unfold kindOf toMsg
  simp only
  split <;> rfl

/-- The message types the protocol table mentions. -/
def tableTypes : List UInt8 := [0, 1, 2, 3, 4, 5, 6]

/-- One data byte with a type outside the table: unknown. -/
theorem kindOf_other (ty b : UInt8) (h : ty ∉ tableTypes) : kindOf ty [b] = .unknown := by
  simp only [tableTypes, List.mem_cons, List.not_mem_nil, or_false, not_or] at h
  obtain ⟨h0, _, h2, h3, h4, h5, h6⟩ := h
  unfold kindOf toMsg
  simp only [h0, h2, h3, h4, h5, h6, ↓reduceIte]
  rfl

/-- How `Frame::from(Message)` lays out a message of a given kind. -/
inductive EncShape where
  | fixed (ty : UInt8) (data : List UInt8)   -- `Frame::new(address, MsgType(ty), Data::from(&[..]))`
  | payload (ty : UInt8)                      -- `Frame::new(Address(offset), MsgType(ty), data)`
  | passthrough                               -- `Message::Unknown(frame) => frame`
  deriving DecidableEq, Repr

def EncShape.apply (s : EncShape) (f : Frame) : Frame :=
  match s with
  | .fixed ty d => ⟨f.addr, ty, d⟩
  | .payload ty => ⟨f.addr, ty, f.data⟩
  | .passthrough => f

/-- The serial bus' three classifications depend on the kind only. -/
theorem responseExpected_kind (m : Msg) (f : Frame) : responseExpected (m.kind.build f) = responseExpected m := by
  cases m <;> rfl
theorem delayAfterSend_kind (m : Msg) (f : Frame) : delayAfterSend (m.kind.build f) = delayAfterSend m := by
  cases m <;> rfl
theorem delayAfterReceive_kind (m : Msg) (f : Frame) : delayAfterReceive (m.kind.build f) = delayAfterReceive m := by
  cases m with
  | reportState a s => cases s <;> rfl
  | _ => rfl

end Flipdot
