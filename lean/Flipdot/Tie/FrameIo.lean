/-
Static tie for `Frame::read` / `Frame::write` (libs/core/src/frame.rs).  The two methods are recognised as wholes by
`translate.py` (topic FrameIo: token for token, layout and comments aside); what is read off them — the capacity of the
`BufReader`, the delimiter of `read_until`, and that `write` is `write_all` of the encoding with its line terminator — is
what the model of Model/Io.lean assumes.  Obligations of every check anchored at frame.rs (`FILE_TOPICS` in
/verif/check): `./check C01` … `C04` and `C15` … `C17`.

What std does underneath (`read_until` asks a capacity-1 `BufReader` for one byte at a time, retries on `Interrupted`,
stops after the delimiter or at end of stream; `write_all` loops until everything is accepted) is modelled from the
documented contracts, not verified; the C15 correspondence run compares it with the real std on every run.
-/
import Flipdot.Generated.FrameIo
namespace Flipdot.Tie.FrameIo
open Flipdot Flipdot.Generated.FrameIo

/-- The reader is buffered one byte at a time: nothing past the line feed is ever taken from the stream
    (with a larger buffer the read-ahead would be lost when the `BufReader` is dropped). -/
theorem capacity_one : readBufferCapacity = 1 := by decide

/-- The line ends at the source's delimiter, which is the model's line feed. -/
theorem delimiter_eq : readDelimiter = 10 := by decide

/-- `read_until` of the model stops exactly after the source's delimiter and leaves the rest of the stream alone. -/
theorem readUntil_stops (acc : List UInt8) (rest : List REvent) :
    readUntilLF (.byte readDelimiter :: rest) acc = (some (acc ++ [readDelimiter]), rest) := by
  simp [readUntilLF, delimiter_eq]

/-- … and goes on past every other byte. -/
theorem readUntil_continues (b : UInt8) (hb : b ≠ readDelimiter) (acc : List UInt8) (rest : List REvent) :
    readUntilLF (.byte b :: rest) acc = readUntilLF rest (acc ++ [b]) := by
  have : b ≠ 10 := by simpa [delimiter_eq] using hb
  simp [readUntilLF, this]

/-- `Frame::read` = decode the line `read_until` produced (`?` on the I/O error, `?` on the decoder's). -/
theorem frameRead_src (evs : List REvent) :
    frameRead evs =
      match readUntilLF evs [] with
      | (none, rest) => (.ioErr, rest)
      | (some line, rest) =>
        match dec line with
        | .ok f => (.ok f, rest)
        | .error e => (.frameErr e, rest) := rfl

/-- `Frame::write` = `write_all` of the encoding with its line terminator. -/
theorem frameWrite_src (f : Frame) (evs : List WEvent) :
    writeIsWriteAllOfEncodingWithNewline = true ∧ frameWrite f evs = writeAll evs (encNL f) := ⟨rfl, rfl⟩

end Flipdot.Tie.FrameIo
