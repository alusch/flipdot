/-
Static tie for the two transport methods, statement level: `SerialSignBus::process_message`
(libs/serial/src/serial_sign_bus.rs) and `Odk::process_message` (libs/testing/src/odk.rs) as compiled from the
source by `translate_serial.py` (`Flipdot.Generated.SerialBus`, regenerated from /repo on every run) are the
model's `serialStep` and `odkStep`: the same port events in the same order (write, pause, read, pause), the
same result, the same port afterwards, for every message, every read / write schedule and every bus.
Obligations of `./check C16`, `C17`, `C18` and `C20`.
-/
import Flipdot.Generated.SerialBus
import Flipdot.Tie.Serial
import Flipdot.Props.C16
import Flipdot.Props.C18
import Flipdot.Props.C17_compose
-- Some simp arguments serve other spellings of the source only (its behaviour-preserving rewrites must keep checking).
set_option linter.unusedSimpArgs false
namespace Flipdot.Tie.SerialBus
open Flipdot Flipdot.Generated.SerialBus

/-- `SerialSignBus::process_message` as written in the source = the model's `serialStep`. -/
theorem processMessage_eq (m : Msg) (p : Port) : processMessage m p = serialStep m p := by
  unfold processMessage serialStep
  simp only [Tie.Serial.respExpected_eq, Tie.Serial.delaySend_eq, Tie.Serial.delayReceive_eq]
  by_cases hw : (frameWrite (toFrame m) p.wr).1 = true
  · by_cases hr : responseExpected m = true
    · cases hf : (frameRead p.rd).1 <;>
        simp [SM.write, SM.sleep, SM.read, SM.ret, hw, hr, hf]
    · simp [SM.write, SM.sleep, SM.read, SM.ret, hw, hr]
  · simp [SM.write, SM.sleep, SM.read, SM.ret, hw]

/-- `Odk::process_message` as written in the source = the model's `odkStep`. -/
theorem odkProcessMessage_eq (bus : List VSign) (p : Port) : odkProcessMessage bus p = odkStep bus p := by
  unfold odkProcessMessage odkStep
  cases hf : (frameRead p.rd).1 with
  | ok f =>
    cases hb : busStep bus (toMsg f) with
    | error e => simp [OM.read, OM.bus, hf, hb]
    | ok r =>
      obtain ⟨bus', reply⟩ := r
      cases reply with
      | none => simp [OM.read, OM.bus, OM.ret, hf, hb]
      | some reply =>
        by_cases hw : (frameWrite (toFrame reply) p.wr).1 = true <;>
          simp [OM.read, OM.bus, OM.write, OM.ret, hf, hb, hw]
  | frameErr e => simp [OM.read, hf]
  | ioErr => simp [OM.read, hf]

/-! ### C16 and C18 stated of the source text

The property theorems of Props/C16.lean and Props/C18.lean are about the model's `serialStep`; with
`processMessage_eq` they are theorems about the method as libs/serial/src/serial_sign_bus.rs spells it. -/

/-- C16: the exchange starts by writing (a prefix of, and on success exactly) the message's frame with its line
    terminator; everything after that first event is a pause or the one read. -/
theorem src_writes_exact (m : Msg) (p : Port) :
    ∃ d ok rest, (processMessage m p).1 = .wrote d ok :: rest ∧ d <+: encNL (toFrame m) ∧
      (ok = true → d = encNL (toFrame m)) ∧ (∀ e ∈ rest, C16.IsAux e) := by
  rw [processMessage_eq]; exact C16.writes_exact m p

/-- C16: a line is read iff the write succeeded and a reply is due, and then exactly once. -/
theorem src_reads_iff_expected (m : Msg) (p : Port) :
    (.readLine ∈ (processMessage m p).1 ↔
      ((frameWrite (toFrame m) p.wr).1 = true ∧ responseExpected m = true)) ∧
    ((processMessage m p).1.filter (· == .readLine)).length ≤ 1 := by
  rw [processMessage_eq]; exact C16.reads_iff_expected m p

/-- C16: a failed write is an error and nothing is read. -/
theorem src_write_failure_is_error (m : Msg) (p : Port) (h : (frameWrite (toFrame m) p.wr).1 = false) :
    (processMessage m p).2.1 = .err ∧ (processMessage m p).2.2.rd = p.rd := by
  rw [processMessage_eq]; exact C16.write_failure_is_error m p h

/-- C18: after a successful write comes the 30 ms pause iff the message is a data chunk — directly after the write,
    before anything is read — and every later pause is the 100 ms one. -/
theorem src_sleep_after_send_iff (m : Msg) (p : Port) (hw : (frameWrite (toFrame m) p.wr).1 = true) :
    ∃ tail, (processMessage m p).1 =
      .wrote (encNL (toFrame m)) true :: (sleepEv (delayAfterSend m) ++ tail) ∧
      (∀ e ∈ tail, ∀ ms, e = .sleep ms → ms = 100) ∧
      (sleepEv (delayAfterSend m) = [.sleep 30] ↔ ∃ off d, m = .sendData off d) ∧
      (sleepEv (delayAfterSend m) = [] ↔ ¬ ∃ off d, m = .sendData off d) := by
  rw [processMessage_eq]; exact C18.sleep_after_send_iff m p hw

/-- C18: a failed write is followed by no pause at all. -/
theorem src_no_sleep_after_failed_write (m : Msg) (p : Port) (h : (frameWrite (toFrame m) p.wr).1 = false) :
    ∀ ms, .sleep ms ∉ (processMessage m p).1 := by
  rw [processMessage_eq]; exact C18.no_sleep_after_failed_write m p h

/-- C18: without a decoded reply there is no 100 ms wait. -/
theorem src_no_recv_sleep_without_reply (m : Msg) (p : Port)
    (h : responseExpected m = false ∨ ∀ f, (frameRead p.rd).1 ≠ .ok f) :
    .sleep 100 ∉ (processMessage m p).1 := by
  rw [processMessage_eq]; exact C18.no_recv_sleep_without_reply m p h

/-- One message through the whole serial path (Model/Pipe.lean, the subject of the C17 transparency theorems) is:
    the bridge's `process_message` — as compiled from libs/testing/src/odk.rs — on the line the serial bus wrote, then
    the serial bus's `process_message` — as compiled from libs/serial/src/serial_sign_bus.rs — reading from what the
    bridge wrote back after whatever was still pending. -/
theorem src_viaSerial (far : Far) (m : Msg) :
    viaSerial far m =
      match odkProcessMessage far.bus { rd := byteEvents (encNL (toFrame m)), wr := [] } with
      | .error e => .error e
      | .ok (_, written, bus', _) =>
        let s := processMessage m { rd := byteEvents (far.pending ++ written), wr := [] }
        .ok (C17.toReply s.2.1, ⟨bus', remainingBytes s.2.2.rd⟩) := by
  rw [odkProcessMessage_eq]
  simp only [processMessage_eq]
  exact C17.viaSerial_compose far m

end Flipdot.Tie.SerialBus
