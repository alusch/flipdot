/-
Static tie for libs/core/src/page.rs and libs/core/src/frame.rs (the encoder, `Data::try_new`, and the decoder after
its regular expression: `fromCaptures_eq`), statement level: the functions compiled from the source by
`translate_core.py` (`Flipdot.Generated.Core`, regenerated from /repo on every run) are the hand-written model's.
Obligations of every check anchored at one of the two files (`FILE_TOPICS` in /verif/check): `./check C01` … `C04`,
`C06` … `C08`, `C12`, `C15` … `C17`.
-/
import Flipdot.Generated.Core
import Flipdot.Lemmas.Bytes
import Flipdot.Props.C01
import Flipdot.Props.C06
-- Some simp arguments serve other spellings of the source only (its behaviour-preserving rewrites must keep checking).
set_option linter.unusedSimpArgs false
namespace Flipdot.Tie.Core
open Flipdot
namespace GP
export Flipdot.Generated.Core.Page (headerLen bytesPerColumn dataBytes totalBytes byteBitIndices new fromBytes
  getPixel setPixel setAllPixels id)
end GP
namespace GF
export Flipdot.Generated.Core.Frame (checksum payload payloadPure toBytes toBytesWithNewline dataMax dataMaxReported
  frameRegexIsPinned fromCaptures)
end GF

theorem nat_shr3 (n : Nat) : n >>> 3 = n / 8 := by simp [Nat.shiftRight_eq_div_pow]
theorem nat_and7 (n : Nat) : n &&& 7 = n % 8 := by
  have := Nat.and_two_pow_sub_one_eq_mod n 3
  simpa using this

theorem bytesPerColumn_eq (h : Nat) : GP.bytesPerColumn h = bpc h := by
  simp [Generated.Core.Page.bytesPerColumn, bpc, nat_shr3]

theorem dataBytes_eq (w h : Nat) : GP.dataBytes w h = dataBytes w h := by
  simp [Generated.Core.Page.dataBytes, dataBytes, bytesPerColumn_eq]

theorem totalBytes_eq (w h : Nat) : GP.totalBytes w h = totalBytes w h := by
  simp [Generated.Core.Page.totalBytes, totalBytes, dataBytes_eq]

theorem ofNat_mod8 (y : Nat) : (UInt8.ofNat (y % 8)).toNat = y % 8 := by
  have : y % 8 < 256 := by omega
  simp [UInt8.toNat_ofNat, Nat.mod_eq_of_lt this]

theorem byteBitIndices_eq (p : Page) (x y : Nat) : GP.byteBitIndices p x y = p.indices x y := by
  have h256 : y % 8 % 256 = y % 8 := Nat.mod_eq_of_lt (by omega)
  simp [Generated.Core.Page.byteBitIndices, Page.indices, bytesPerColumn_eq, ofNat_mod8, nat_shr3, nat_and7, h256]

theorem new_eq (id : UInt8) (w h : Nat) : GP.new id w h = Page.new id w h := by
  simp [Generated.Core.Page.new, Page.new, dataBytes_eq, totalBytes_eq]

theorem fromBytes_eq (w h : Nat) (bs : List UInt8) : GP.fromBytes w h bs = Page.fromBytes w h bs := by
  simp [Generated.Core.Page.fromBytes, Page.fromBytes, totalBytes_eq]

theorem getPixel_eq (p : Page) (x y : Nat) : GP.getPixel p x y = p.get x y := by
  unfold Generated.Core.Page.getPixel Page.get
  rw [byteBitIndices_eq]
  cases h : p.indices x y with
  | error e => rfl
  | ok ib =>
    obtain ⟨i, bit⟩ := ib
    simp only [liftE, idxE]
    cases p.bytes[i]? with
    | none => rfl
    | some b =>
      simp only [testMask, bitMask]
      congr 1
      try (by_cases hb : b &&& (1 : UInt8) <<< UInt8.ofNat bit = (1 : UInt8) <<< UInt8.ofNat bit <;> simp [hb])

theorem setPixel_eq (p : Page) (x y : Nat) (v : Bool) : GP.setPixel p x y v = p.set x y v := by
  unfold Generated.Core.Page.setPixel Page.set
  rw [byteBitIndices_eq]
  cases h : p.indices x y with
  | error e => rfl
  | ok ib =>
    obtain ⟨i, bit⟩ := ib
    simp only [liftE, idxE]
    cases p.bytes[i]? with
    | none => rfl
    | some b => cases v <;> simp [setMask, bitMask]

theorem setAllPixels_eq (p : Page) (v : Bool) : GP.setAllPixels p v = p.setAll v := by
  unfold Generated.Core.Page.setAllPixels Page.setAll
  simp only [dataBytes_eq, liftE]
  cases v
  · cases fillRange p.bytes 4 (dataBytes p.w p.h) (if false = true then (255 : UInt8) else 0) <;> rfl
  · cases fillRange p.bytes 4 (dataBytes p.w p.h) (if true = true then (255 : UInt8) else 0) <;> rfl

theorem id_eq (p : Page) : GP.id p = p.id := by
  unfold Generated.Core.Page.id Page.id idxE
  cases p.bytes[0]? <;> rfl

theorem u8_neg (x : UInt8) : ~~~ x + 1 = 0 - x := by
  rw [UInt8.zero_sub, UInt8.neg_eq_not_add]

theorem lrc_acc (bs : List UInt8) (a : UInt8) : bs.foldl (· - ·) a = a - bs.foldl (· + ·) 0 :=
  UInt8.eq_sub_iff_add_eq.mpr (by simpa using lrc_fold bs a 0)

/-- The checksum: a wrapping subtraction of every byte from zero, or (the source's own comment) the two's
    complement of the wrapping sum — both spellings are the model's `lrc`. -/
theorem checksum_eq (bs : List UInt8) : GF.checksum bs = lrc bs := by
  first
    | rfl
    | (simp only [Generated.Core.Frame.checksum, lrc, u8_neg]
       exact (lrc_acc bs 0).symm)

theorem payload_eq (f : Frame) : GF.payload f = .ok (Flipdot.payload f) := by
  simp [Generated.Core.Frame.payload, Flipdot.payload]

/-- The two table look-ups of the hex loop never go out of bounds and give the model's digits. -/
theorem hexLookup (b : UInt8) (acc : List UInt8) :
    (idxE [0x30, 0x31, 0x32, 0x33, 0x34, 0x35, 0x36, 0x37, 0x38, 0x39, 0x41, 0x42, 0x43, 0x44, 0x45, 0x46]
        (b >>> (0x04 : UInt8)).toNat fun b3 =>
      idxE [0x30, 0x31, 0x32, 0x33, 0x34, 0x35, 0x36, 0x37, 0x38, 0x39, 0x41, 0x42, 0x43, 0x44, 0x45, 0x46]
          (b &&& (0x0F : UInt8)).toNat fun b4 =>
        (.ok ((acc ++ [b3]) ++ [b4]) : Except Panic (List UInt8)))
      = .ok (acc ++ hexByte b) := by
  -- the table as the source spells it is `C01.digitTable`
  have h1 := C01.hexDigit_table _ (nibbles_lt b).1
  have h2 := C01.hexDigit_table _ (nibbles_lt b).2
  simp only [C01.digitTable] at h1 h2
  simp only [idxE, h1, h2, hexByte, List.append_assoc, List.cons_append, List.nil_append]

theorem hexFold (bs acc : List UInt8) :
    foldlE bs acc (fun acc byte =>
      idxE [0x30, 0x31, 0x32, 0x33, 0x34, 0x35, 0x36, 0x37, 0x38, 0x39, 0x41, 0x42, 0x43, 0x44, 0x45, 0x46]
          (byte >>> (0x04 : UInt8)).toNat fun b3 =>
        idxE [0x30, 0x31, 0x32, 0x33, 0x34, 0x35, 0x36, 0x37, 0x38, 0x39, 0x41, 0x42, 0x43, 0x44, 0x45, 0x46]
            (byte &&& (0x0F : UInt8)).toNat fun b4 =>
          (.ok ((acc ++ [b3]) ++ [b4]) : Except Panic (List UInt8)))
      = .ok (acc ++ hexUpper bs) := by
  induction bs generalizing acc with
  | nil => simp [foldlE, hexUpper]
  | cons b bs ih =>
    have hl := hexLookup b acc
    simp only [List.append_assoc] at hl
    simp only [foldlE, List.append_assoc, hl, hexUpper]
    have := ih (acc ++ hexByte b)
    simp only [List.append_assoc] at this
    exact this

theorem toBytes_eq (f : Frame) : GF.toBytes f = .ok (enc f) := by
  unfold Generated.Core.Frame.toBytes
  simp only [payload_eq, liftE, hexFold, checksum_eq, enc, List.nil_append, List.cons_append]

theorem toBytesWithNewline_eq (f : Frame) : GF.toBytesWithNewline f = .ok (encNL f) := by
  unfold Generated.Core.Frame.toBytesWithNewline
  simp only [toBytes_eq, liftE, encNL]

/-- `Data::try_new`: the bound and the reported maximum are the model's 255. -/
theorem dataMax_eq : GF.dataMax = 255 ∧ GF.dataMaxReported = 255 := by decide

theorem tryNew_src (d : List UInt8) :
    Data.tryNew d = if d.length > GF.dataMax then .error (.tooLong GF.dataMaxReported d.length) else .ok d := by
  simp [Data.tryNew, dataMax_eq.1, dataMax_eq.2]

theorem regex_pinned : GF.frameRegexIsPinned = true := rfl

theorem payloadPure_eq (f : Frame) : GF.payloadPure f = Flipdot.payload f := by
  simp [Generated.Core.Frame.payloadPure, Flipdot.payload]

/-- The decoder after the regular expression: the translated tail (length test, `Data::try_new`, checksum
    test, in the source's order, with the source's error fields) applied to the parsed groups is the model's
    `checkBytes` on the numeric bytes `len, addr_hi, addr_lo, type, data…, checksum`. -/
theorem fromCaptures_eq (len ah al ty ck : UInt8) (data : List UInt8) :
    GF.fromCaptures len (ah.toUInt16 * 256 + al.toUInt16) ty data ck
      = checkBytes (len :: ah :: al :: ty :: (data ++ [ck])) := by
  unfold Generated.Core.Frame.fromCaptures checkBytes
  simp only [List.getLast?_append, List.getLast?_singleton, Option.some_or, List.dropLast_concat, payloadPure_eq, checksum_eq]
  by_cases hl : data.length = len.toNat
  · simp only [hl, ne_eq, not_true_eq_false, ↓reduceIte]
    cases hd : Data.tryNew data with
    | error e => rfl
    | ok d =>
      first
        | rfl
        | (by_cases hc : lrc (Flipdot.payload ⟨ah.toUInt16 * 256 + al.toUInt16, ty, d⟩) = ck <;> simp [hc])
  · simp [hl]

/-! ### C01, C06 and C07 stated of the source text

With the equalities above, the property theorems about the model are theorems about the functions compiled from
libs/core/src/frame.rs and libs/core/src/page.rs as the source spells them. -/

/-- C01: what `to_bytes` (as written in the source) produces decodes back to the frame, for every frame whose data
    block `Data::try_new` admits. -/
theorem src_dec_toBytes (f : Frame) (h : f.WF) : ∃ bs, GF.toBytes f = .ok bs ∧ dec bs = .ok f :=
  ⟨enc f, toBytes_eq f, C01.dec_enc f h⟩

theorem src_dec_toBytesWithNewline (f : Frame) (h : f.WF) :
    ∃ bs, GF.toBytesWithNewline f = .ok bs ∧ dec bs = .ok f :=
  ⟨encNL f, toBytesWithNewline_eq f, C01.dec_encNL f h⟩

/-- C01: the source's encoder never panics, and its output has the documented length. -/
theorem src_toBytes_length (f : Frame) : ∃ bs, GF.toBytes f = .ok bs ∧ bs.length = 1 + 2 * (f.data.length + 5) :=
  ⟨enc f, toBytes_eq f, C01.enc_length f⟩

/-- C06: out-of-bounds coordinates panic in the source's accessors, in-bounds ones never do (on a well-formed page). -/
theorem src_oob_panics (p : Page) (x y : Nat) (v : Bool) (h : x ≥ p.w ∨ y ≥ p.h) :
    GP.getPixel p x y = .error .oob ∧ GP.setPixel p x y v = .error .oob := by
  rw [getPixel_eq, setPixel_eq]; exact C06.oob_panics p x y v h

theorem src_inb_no_panic (p : Page) (hp : p.WF) (x y : Nat) (v : Bool) (hx : x < p.w) (hy : y < p.h) :
    (∃ b, GP.getPixel p x y = .ok b) ∧ (∃ p', GP.setPixel p x y v = .ok p') := by
  rw [getPixel_eq, setPixel_eq]; exact C06.inb_no_panic p hp x y v hx hy

/-- C06: `set_pixel` then `get_pixel` of the same pixel reads the value back; every other pixel is unchanged. -/
theorem src_get_set_same (p p' : Page) (hp : p.WF) (x y : Nat) (v : Bool)
    (h : GP.setPixel p x y v = .ok p') : GP.getPixel p' x y = .ok v := by
  rw [setPixel_eq] at h; rw [getPixel_eq]; exact C06.get_set_same p p' hp x y v h

theorem src_get_set_other (p p' : Page) (hp : p.WF) (x y x' y' : Nat) (v : Bool)
    (hx' : x' < p.w) (hy' : y' < p.h) (hne : (x', y') ≠ (x, y))
    (h : GP.setPixel p x y v = .ok p') : GP.getPixel p' x' y' = GP.getPixel p x' y' := by
  rw [setPixel_eq] at h; rw [getPixel_eq, getPixel_eq]; exact C06.get_set_other p p' hp x y x' y' v hx' hy' hne h

/-- C07: the byte and bit a pixel lives in, as computed by the source's `byte_bit_indices`, for every page size
    (no bound on width or height: the arithmetic is in `usize`, modelled as `Nat`). -/
theorem src_pixel_position (p : Page) (x y : Nat) (hx : x < p.w) (hy : y < p.h) :
    GP.byteBitIndices p x y = .ok (4 + x * bpc p.h + y / 8, y % 8) := by
  rw [byteBitIndices_eq, p.indices_inb x y hx hy]

end Flipdot.Tie.Core
