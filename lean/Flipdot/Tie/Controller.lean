/-
Static tie for src/sign.rs: every protocol method of `impl Sign`, compiled statement by statement
into an interaction tree by `translate_ctrl.py` (`Flipdot.Generated.Controller`, regenerated from
/repo on every run), is the hand-written model's tree (`Flipdot.Model.Controller`) — equal as
functions of the replies, hence equal on every reply script, bus and history.  Audited by
`./check C08 … C11` and `C17`.

The proofs are deliberately *semantic*: `prog_eq` peels the common sends and decides the remaining
if-chains over a reply by case analysis, so a rewrite of the Rust source that keeps the behaviour
(arms reordered, `match` turned into `if`/early `return`, a condition spelled differently) still
checks, while a changed reaction to some reply leaves an unsolved goal whose hypotheses spell out
the offending reply sequence.
-/
import Flipdot.Generated.Controller
import Flipdot.Props.C10
import Flipdot.Props.C11
import Flipdot.Props.C09
-- Some simp arguments serve other spellings of the source only (its behaviour-preserving rewrites must keep checking).
set_option linter.unusedSimpArgs false
namespace Flipdot.Tie.Controller
open Flipdot
namespace G
export Flipdot.Generated.Controller (ensureUnconfigured sendDataLoop sendData configure configureIfNeeded
  sendPages switchPageLoop switchPage loadNextPage showLoadedPage shutDown)
end G

/-- Equality of two interaction trees: peel equal sends, split the if-chains / matches over the
    reply on both sides, and close each combination of cases by simplification. -/
macro "prog_eq" : tactic => `(tactic|
  (simp only [ctrl_unfold, expect, finishResetSeq, Prog.send_bind, Prog.ite_bind, Prog.done_bind, Prog.fail_bind,
     ownReport_some_iff, anyReport_some_iff]
   repeat' (first
     | rfl
     | (apply send_congr; intro _)
     | (apply sendChunks_congr; intro _)
     | (funext _)
     | (split <;> simp_all [ownReport_some_iff, anyReport_some_iff, ownReport_none_iff]))))

/-- `ensure_unconfigured`, compiled from the source, is the model's (with `Ok(())` as continuation). -/
theorem ensureUnconfigured_eq (a : UInt16) :
    G.ensureUnconfigured a = Flipdot.ensureUnconfigured a (.done ()) := by
  unfold Generated.Controller.ensureUnconfigured Flipdot.ensureUnconfigured
  prog_eq

/-- The model's `ensureUnconfigured` threads its continuation. -/
theorem ensure_bind {β : Type} (a : UInt16) (f : Unit → Prog β) :
    (Flipdot.ensureUnconfigured a (.done ())).bind f = Flipdot.ensureUnconfigured a (f ()) := by
  unfold Flipdot.ensureUnconfigured finishResetSeq
  simp only [Prog.bind]
  congr 1; funext r
  split
  · rfl
  · split
    · simp only [expect_bind]; rfl
    · simp only [expect_bind]; rfl

/-- The retry loop of `send_data`, compiled from the source (attempt counter, `MAX_ATTEMPTS`, the
    chunking template), at attempt `3 - retries` with enough fuel, is the model's `transfer` with
    `retries` retries left. -/
theorem sendDataLoop_eq (a : UInt16) (data : List (List UInt8)) (op : Op) (succ failS : State) :
    ∀ retries fuel, retries ≤ 2 → retries < fuel →
      G.sendDataLoop a data op succ failS (3 - retries) fuel
        = transfer a (allChunkMsgs data) op succ failS retries := by
  intro retries
  induction retries with
  | zero =>
    intro fuel _ hf
    obtain ⟨f, rfl⟩ : ∃ f, fuel = f + 1 := ⟨fuel - 1, by omega⟩
    simp only [Generated.Controller.sendDataLoop, transfer, chunkMsgsGen_16]
    prog_eq
  | succ n ih =>
    intro fuel hr hf
    obtain ⟨f, rfl⟩ : ∃ f, fuel = f + 1 := ⟨fuel - 1, by omega⟩
    have hlt : 3 - (n + 1) < 3 := by omega
    have hstep : 3 - (n + 1) + 1 = 3 - n := by omega
    have ih' := ih f (by omega) (by omega)
    simp only [Generated.Controller.sendDataLoop, transfer, chunkMsgsGen_16, hstep, ih']
    prog_eq

/-- `send_data` compiled from the source is the model's three-attempt `transfer`. -/
theorem sendData_eq (a : UInt16) (data : List (List UInt8)) (op : Op) (succ failS : State) (fuel : Nat)
    (h : 3 ≤ fuel) : G.sendData a data op succ failS fuel = transfer a (allChunkMsgs data) op succ failS 2 := by
  unfold Generated.Controller.sendData
  exact sendDataLoop_eq a data op succ failS 2 fuel (by omega) (by omega)

/-- `Sign::configure`. -/
theorem configure_eq (a : UInt16) (t : SignType) (fuel : Nat) (h : 3 ≤ fuel) :
    G.configure a t fuel = Flipdot.configure a t := by
  unfold Generated.Controller.configure Flipdot.configure
  rw [ensureUnconfigured_eq, ensure_bind, sendData_eq _ _ _ _ _ _ h]

/-- `Sign::configure_if_needed`. -/
theorem configureIfNeeded_eq (a : UInt16) (t : SignType) (fuel : Nat) (h : 3 ≤ fuel) :
    G.configureIfNeeded a t fuel = Flipdot.configureIfNeeded a t := by
  unfold Generated.Controller.configureIfNeeded Flipdot.configureIfNeeded
  simp only [Prog.bind_done_unit, configure_eq a t fuel h]
  apply send_congr; intro r
  cases ho : ownReport? a r with
  | none =>
    have hne : ∀ s, r ≠ some (.reportState a s) := ownReport_none_iff.1 ho
    simp [hne, ownReport_some_iff]
  | some s =>
    have hr := (ownReport_some_iff).1 ho
    subst hr
    cases s <;> simp [readyStates, ownReport_some_iff]

/-- `Sign::send_pages`. -/
theorem sendPages_eq (a : UInt16) (pages : List (List UInt8)) (fuel : Nat) (h : 3 ≤ fuel) :
    G.sendPages a pages fuel = Flipdot.sendPages a pages := by
  unfold Generated.Controller.sendPages Flipdot.sendPages
  rw [sendData_eq _ _ _ _ _ _ h]
  congr 1; funext _
  prog_eq

/-- One polling loop instance: after fixing target, trigger and operation (the private `switch_page` is
    only ever called with the two combinations below) the compiled loop is the model's, for every fuel.
    The reply is classified as own report of one of the 13 states / anything else, which decides every
    condition on both sides. -/
macro "switch_page_eq" a:ident : tactic => `(tactic|
  (unfold Generated.Controller.switchPage
   intro fuel
   induction fuel with
   | zero => rfl
   | succ f ih =>
     simp only [Generated.Controller.switchPageLoop, Flipdot.switchPage, ih, ctrl_unfold, Prog.send_bind, Prog.ite_bind, Prog.done_bind, Prog.fail_bind, expect]
     apply send_congr; intro r
     cases ho : ownReport? $a r with
     | none =>
       have hne : ∀ s, r ≠ some (.reportState $a s) := ownReport_none_iff.1 ho
       simp [hne, ownReport_some_iff]
     | some s =>
       have hr := (ownReport_some_iff).1 ho
       subst hr
       cases s <;> simp [ctrl_unfold, Prog.send_bind, Prog.ite_bind, ownReport_some_iff, expect]))

/-- `Sign::load_next_page` = `switch_page(PageLoaded, PageShown, LoadNextPage)`. -/
theorem loadNextPage_eq (a : UInt16) : ∀ fuel, G.loadNextPage a fuel = Flipdot.loadNextPage a fuel := by
  unfold Generated.Controller.loadNextPage Flipdot.loadNextPage
  switch_page_eq a

/-- `Sign::show_loaded_page` = `switch_page(PageShown, PageLoaded, ShowLoadedPage)`. -/
theorem showLoadedPage_eq (a : UInt16) : ∀ fuel, G.showLoadedPage a fuel = Flipdot.showLoadedPage a fuel := by
  unfold Generated.Controller.showLoadedPage Flipdot.showLoadedPage
  switch_page_eq a

theorem shutDown_eq (a : UInt16) : G.shutDown a = Flipdot.shutDown a := by
  unfold Generated.Controller.shutDown Flipdot.shutDown
  prog_eq

/-! ### C09, C10 and C11 stated of the source text

With the equalities above, the property theorems (about the model's trees) are theorems about the interaction trees
compiled from src/sign.rs as the source spells it: for every reply script — of any length, with any replies — the conversation
the source's method holds is one the documented protocol prescribes, with the prescribed outcome. -/

theorem src_configure_follows_protocol (a : UInt16) (t : SignType) (fuel : Nat) (h : 3 ≤ fuel) (script : List Reply) :
    ConfigureSpec a t ((G.configure a t fuel).run script).1 ((G.configure a t fuel).run script).2 := by
  rw [configure_eq a t fuel h]; exact C10.configure_follows_protocol a t script

theorem src_configureIfNeeded_follows_protocol (a : UInt16) (t : SignType) (fuel : Nat) (h : 3 ≤ fuel)
    (script : List Reply) :
    ConfigureIfNeededSpec a t ((G.configureIfNeeded a t fuel).run script).1
      ((G.configureIfNeeded a t fuel).run script).2 := by
  rw [configureIfNeeded_eq a t fuel h]; exact C10.configureIfNeeded_follows_protocol a t script

theorem src_sendPages_follows_protocol (a : UInt16) (pages : List (List UInt8)) (fuel : Nat) (h : 3 ≤ fuel)
    (script : List Reply) (hn : (allChunkMsgs pages).length < 65536) :
    SendPagesSpec a pages ((G.sendPages a pages fuel).run script).1 ((G.sendPages a pages fuel).run script).2 := by
  rw [sendPages_eq a pages fuel h]; exact C10.sendPages_follows_protocol a pages script hn

theorem src_showLoadedPage_follows_protocol (a : UInt16) (fuel : Nat) (script : List Reply) :
    SwitchSpec a .pageShown .pageLoaded .showLoadedPage
      ((G.showLoadedPage a fuel).run script).1 ((G.showLoadedPage a fuel).run script).2 := by
  rw [showLoadedPage_eq a fuel]; exact C10.showLoadedPage_follows_protocol a fuel script

theorem src_loadNextPage_follows_protocol (a : UInt16) (fuel : Nat) (script : List Reply) :
    SwitchSpec a .pageLoaded .pageShown .loadNextPage
      ((G.loadNextPage a fuel).run script).1 ((G.loadNextPage a fuel).run script).2 := by
  rw [loadNextPage_eq a fuel]; exact C10.loadNextPage_follows_protocol a fuel script

theorem src_shutDown_follows_protocol (a : UInt16) (script : List Reply) :
    ShutDownSpec a ((G.shutDown a).run script).1 ((G.shutDown a).run script).2 := by
  rw [shutDown_eq a]; exact C10.shutDown_follows_protocol a script

/-- C11 on the source text: every addressed message `configure` / `send_pages` send carries the controller's own
    address, whatever the replies. -/
theorem src_configure_own_address (a : UInt16) (t : SignType) (fuel : Nat) (h : 3 ≤ fuel) (script : List Reply) :
    ∀ e ∈ ((G.configure a t fuel).run script).1, OwnOrNone a e.1 := by
  rw [configure_eq a t fuel h]; exact C11.configure_own_address a t script

theorem src_sendPages_own_address (a : UInt16) (pages : List (List UInt8)) (fuel : Nat) (h : 3 ≤ fuel)
    (script : List Reply) :
    ∀ e ∈ ((G.sendPages a pages fuel).run script).1, OwnOrNone a e.1 := by
  rw [sendPages_eq a pages fuel h]; exact C11.sendPages_own_address a pages script

/-- C09 on the source text: whenever `configure` reaches the configuration phase, what follows is a transfer of the
    sign type's 16-byte block in attempts of (request, every chunk in order, chunk count, query); otherwise no data
    message was sent at all. -/
theorem src_configure_shape (a : UInt16) (t : SignType) (fuel : Nat) (h : 3 ≤ fuel) (script : List Reply) :
    (∃ c1 c2, ((G.configure a t fuel).run script).1 = c1 ++ c2 ∧ EnsureOK a c1 ∧
        AttemptShape (attemptMsgs a [.sendData 0 t.toBytes] .receiveConfig) 2 (msgsOf c2)) ∨
    (EnsureStop a ((G.configure a t fuel).run script).1 ((G.configure a t fuel).run script).2) := by
  rw [configure_eq a t fuel h]; exact C09.configure_shape a t script

end Flipdot.Tie.Controller
