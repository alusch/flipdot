/-
Static tie for libs/testing/src/virtual_sign_bus.rs: the dispatch table of `process_message` and the
per-handler state tables that `translate.py` regenerates from the Rust source
(`Flipdot.Generated.VSign`) give, glued together as the source glues them, exactly the documented
sign-side machine `C13.specStep`, which `C13.step_refines` shows the model `vstep` to implement.
Obligations of every check anchored at that file (`FILE_TOPICS` in /verif/check): `./check C08`, `C12` … `C14`, `C17`
and `C19`.
-/
import Flipdot.Generated.VSign
import Flipdot.Props.C13
namespace Flipdot.Tie.VSign
open Flipdot Flipdot.Generated.VSign

/-- The handler an operation request is dispatched to. -/
def opHandler : Op → Handler
  | .receiveConfig => .receiveConfig | .receivePixels => .receivePixels
  | .showLoadedPage => .showLoadedPage | .loadNextPage => .loadNextPage
  | .startReset => .startReset | .finishReset => .finishReset

/-- `process_message` hands each kind of message to the handler the model assumes, with the address
    guard exactly on the addressed kinds, and ignores everything else. -/
theorem dispatch_eq : ∀ k : Kind, dispatch k =
    (match k with
     | .hello | .query => some (true, .queryState)
     | .request o => some (true, opHandler o)
     | .data => some (false, .sendData)
     | .chunks => some (false, .dataChunksSent)
     | .pixelsComplete => some (true, .pixelsComplete)
     | .goodbye => some (true, .goodbye)
     | .report _ | .ack _ | .unknown => none) := by
  apply Kind.forall_of_all; decide

/-- The states in which each operation is accepted are the legality table of C13. -/
theorem accepts_eq : ∀ o : Op, ∀ s : State, decide (s ∈ opAccepts o) = C13.legal o s := by
  apply Op.forall_of_all
  have : ∀ o ∈ Op.all, ∀ s ∈ State.all, decide (s ∈ opAccepts o) = C13.legal o s := by decide
  exact fun o ho => State.forall_of_all (this o ho)

/-- The state an accepted operation leads to is C13's target. -/
theorem target_eq : ∀ o : Op, opTarget o = C13.target o := by
  apply Op.forall_of_all; decide

/-- `query_state` completes exactly the two in-progress states. -/
theorem queryNext_eq : ∀ s : State, queryNext s = C13.afterReport s := by
  apply State.forall_of_all; decide

/-- `data_chunks_sent`: the two tables are the model's `State.afterCount`. -/
theorem count_eq : ∀ s : State, countOk s = s.afterCount true ∧ countBad s = s.afterCount false := by
  apply State.forall_of_all; decide

theorem complete_eq : completeFrom = .pixelsReceived ∧
    (∀ st : FlipStyle, completeTo st = match st with | .automatic => .showingPages | .manual => .pageLoaded) :=
  ⟨by decide, fun st => by cases st <;> decide⟩

theorem reset_eq : resetState = .unconfigured := by decide

/-- Reply and next state of `process_message`, assembled from the regenerated tables the way the
    source assembles them: dispatch on the kind, address guard, then the handler's table. -/
def srcStep (s : VSign) (m : Msg) : Option Msg × State :=
  match dispatch m.kind with
  | none => (none, s.state)
  | some (guarded, h) =>
    if guarded = true ∧ m.addr? ≠ some s.addr then (none, s.state)
    else match h, m with
      | .queryState, _ => (some (.reportState s.addr s.state), queryNext s.state)
      | .sendData, _ => (none, s.state)
      | .dataChunksSent, .chunksSent n =>
        (none, if s.chunks = n.toNat then countOk s.state else countBad s.state)
      | .pixelsComplete, _ =>
        (none, if s.state = completeFrom then completeTo s.style else s.state)
      | .goodbye, _ => (none, resetState)
      | _, .requestOp _ o =>
        if s.state ∈ opAccepts o then (some (.ackOp s.addr o), opTarget o) else (none, s.state)
      | _, _ => (none, s.state)

/-- The machine read off the source is the documented machine. -/
theorem srcStep_eq (s : VSign) (m : Msg) : srcStep s m = C13.specStep s m := by
  unfold srcStep
  rw [dispatch_eq]
  cases m with
  | hello a | queryState a =>
    simp only [Msg.kind, Msg.addr?, C13.specStep, queryNext_eq]
    by_cases h : a = s.addr <;> simp [h]
  | requestOp a o =>
    simp only [Msg.kind, Msg.addr?, C13.specStep]
    by_cases h : a = s.addr
    · have hl := accepts_eq o s.state
      by_cases hm : s.state ∈ opAccepts o
      · have : C13.legal o s.state = true := by rw [← hl]; simpa using hm
        cases o <;> simp [h, hm, this, opHandler, target_eq]
      · have : C13.legal o s.state = false := by rw [← hl]; simpa using hm
        cases o <;> simp [h, hm, this, opHandler]
    · simp [h]
  | chunksSent n =>
    simp only [Msg.kind, C13.specStep]
    have hc := count_eq s.state
    by_cases hn : s.chunks = n.toNat <;> cases hs : s.state <;> simp_all [State.afterCount]
  | pixelsComplete a =>
    simp only [Msg.kind, Msg.addr?, C13.specStep, complete_eq.1, complete_eq.2]
    by_cases h : a = s.addr <;> by_cases hs : s.state = .pixelsReceived <;> simp [h, hs]
    cases s.style <;> rfl
  | goodbye a =>
    simp only [Msg.kind, Msg.addr?, C13.specStep, reset_eq]
    by_cases h : a = s.addr <;> simp [h]
  | sendData | reportState | ackOp | unknown => simp [Msg.kind, C13.specStep]

/-- Hence the model's virtual sign answers and moves as the tables read off the source say, for
    every sign state and every message. -/
theorem vstep_refines_src (s : VSign) (m : Msg) :
    ∃ s', vstep s m = .ok (s', (srcStep s m).1) ∧ s'.state = (srcStep s m).2 := by
  rw [srcStep_eq]; exact C13.step_refines s m

/-- The guards of `send_data` read off the source are the model's. -/
theorem sendData_consts : configState = .configInProgress ∧ configOffset = 0 ∧ configChunkLen = 16 ∧
    pixelState = .pixelsInProgress ∧ flushOffset = 0 := by decide

/-- Outside the two receiving states read off the source, a data chunk changes nothing. -/
theorem sendData_ignored (s : VSign) (off : UInt16) (d : List UInt8)
    (h1 : s.state ≠ configState) (h2 : s.state ≠ pixelState) : s.sendData off d = .ok s :=
  s.sendData_idle off d (State.receiving_false.mpr ⟨sendData_consts.1 ▸ h1, sendData_consts.2.2.2.1 ▸ h2⟩)

/-- The configuration digest read off the source (which bytes make the width and the height for each
    family) is the model's `configDims` on every 16-byte block. -/
theorem digest_eq (data : List UInt8) (h : data.length = 16) :
    configDims data = .ok ((digest (data[0]'(by omega))).map fun (ws, hi) =>
      ((ws.map fun i => (data[i]?.getD 0).toNat).sum, (data[hi]?.getD 0).toNat)) := by
  rw [configDims_len16 data h, List.getD_eq_getElem?_getD, List.getElem?_eq_getElem (by omega), Option.getD_some]
  unfold digest
  split
  · simp [List.range', Nat.add_assoc]
  · split <;> simp

end Flipdot.Tie.VSign
