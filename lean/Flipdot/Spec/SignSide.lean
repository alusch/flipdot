/-
The documented sign-side machine, as tables: which operation a sign accepts in which state, where
an accepted operation leads, how reported in-progress states complete, and what closing a group of
buffered chunks stores.  They bear the namespace of the property whose statements they are the terms of:
C13 states the model's `vstep` against them.
-/
import Flipdot.Model.Message
import Flipdot.Model.Page
namespace Flipdot.C13

/-- In which states a sign accepts (acknowledges) an operation request. -/
def legal : Op → State → Bool
  | .receiveConfig, s => s == .unconfigured || s == .configFailed
  | .receivePixels, s =>
      s == .configReceived || s == .pixelsFailed || s == .pageLoaded || s == .pageLoadInProgress ||
      s == .pageShown || s == .pageShowInProgress || s == .showingPages
  | .showLoadedPage, s => s == .pageLoaded
  | .loadNextPage, s => s == .pageShown
  | .startReset, _ => true
  | .finishReset, s => s == .readyToReset

/-- The state an accepted operation leads to. -/
def target : Op → State
  | .receiveConfig => .configInProgress
  | .receivePixels => .pixelsInProgress
  | .showLoadedPage => .pageShowInProgress
  | .loadNextPage => .pageLoadInProgress
  | .startReset => .readyToReset
  | .finishReset => .unconfigured

/-- In-progress load/show states complete after being reported once. -/
def afterReport : State → State
  | .pageLoadInProgress => .pageLoaded
  | .pageShowInProgress => .pageShown
  | s => s

/-- Closing the group of chunks buffered so far: stored iff it is a complete page. -/
def closeGroup (w h : Nat) (pages : List Page) (cur : List UInt8) : List Page :=
  if cur = [] then pages
  else if w > 0 ∧ h > 0 ∧ cur.length = totalBytes w h then pages ++ [⟨w, h, cur⟩]
  else pages

end Flipdot.C13
