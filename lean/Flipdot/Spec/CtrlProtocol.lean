/-
The documented controller protocol as relations on conversations (a different shape from the
executable interaction tree in Model/Controller.lean).  A conversation is a list of exchanges `Ex`, `ans m r`
the exchange "`m` answered by `r`" (Lemmas/Prog.lean); `Outcome` is the model's (Model/Controller.lean).
Lemmas/CtrlConv.lean proves that each relation holds of exactly the conversations of its operation.
-/
import Flipdot.Lemmas.Prog
namespace Flipdot

variable {α β : Type}

/-- The ways an exchange that must be answered by exactly `want` (`send_message_expect_response`) ends the
    conversation early: the script has no reply left, the bus fails, or `verify_response` fails. -/
inductive Stop (m : Msg) (want : Option Msg) : List Ex → Outcome α → Prop where
  | starved : Stop m want [(m, none)] .starved
  | bus : Stop m want [(m, some .busError)] .bus
  | wrong (r : Option Msg) : r ≠ want → Stop m want [ans m r] .proto

/-- The conversation in which each required exchange got exactly the reply it needs. -/
def okConv (reqs : List (Msg × Option Msg)) : List Ex := reqs.map fun mw => ans mw.1 mw.2

/-- A sequence of required exchanges fails at some position: everything before it was answered as
    required, the exchange at that position stops the conversation. -/
def MustFail (reqs : List (Msg × Option Msg)) (c : List Ex) (o : Outcome α) : Prop :=
  ∃ pre m w post c', reqs = pre ++ (m, w) :: post ∧ Stop m w c' o ∧ c = okConv pre ++ c'

/-- What one attempt must exchange before it may ask for the result: the receive request must be
    acknowledged by the sign itself, every chunk and the chunk count must be met with silence. -/
def attemptReqs (a : UInt16) (msgs : List Msg) (op : Op) : List (Msg × Option Msg) :=
  (.requestOp a op, some (.ackOp a op)) ::
    (msgs.map (·, none) ++ [(.chunksSent (UInt16.ofNat msgs.length), none)])

/-- `send_data`: "Requests `operation` from the sign and fails if it does not acknowledge. Sends
    `data` in 16-byte chunks, then queries the sign's state. If `success`, we're done. If `failure`,
    repeat the process a fixed number of times in case the data was corrupted in transit. Fails after
    exhausting the retries or if any other state is reported."  `n` = retries still allowed after this
    attempt (`MAX_ATTEMPTS - attempts`). -/
inductive TransferSpec (a : UInt16) (msgs : List Msg) (op : Op) (succ failS : State) :
    Nat → List Ex → Outcome Unit → Prop where
  | stopped (n) (c o) : MustFail (attemptReqs a msgs op) c o → TransferSpec a msgs op succ failS n c o
  | queryStarved (n) :
      TransferSpec a msgs op succ failS n (okConv (attemptReqs a msgs op) ++ [(.queryState a, none)]) .starved
  | queryBus (n) :
      TransferSpec a msgs op succ failS n
        (okConv (attemptReqs a msgs op) ++ [(.queryState a, some .busError)]) .bus
  | received (n) :
      TransferSpec a msgs op succ failS n
        (okConv (attemptReqs a msgs op) ++ [ans (.queryState a) (some (.reportState a succ))]) (.ok ())
  | retry (n) (c o) : TransferSpec a msgs op succ failS n c o →
      TransferSpec a msgs op succ failS (n + 1)
        (okConv (attemptReqs a msgs op) ++ ans (.queryState a) (some (.reportState a failS)) :: c) o
  | unexpected (n) (r : Option Msg) : r ≠ some (.reportState a succ) →
      (n = 0 ∨ r ≠ some (.reportState a failS)) →
      TransferSpec a msgs op succ failS n (okConv (attemptReqs a msgs op) ++ [ans (.queryState a) r]) .proto

/-- Non-`ok` outcomes carry over unchanged when an operation is continued by another. -/
def Outcome.cast : Outcome α → Outcome β
  | .ok _ => .proto   -- never used on `ok`
  | .proto => .proto
  | .bus => .bus
  | .starved => .starved
  | .panic p => .panic p
  | .outOfFuel => .outOfFuel

/-- The `ReadyToReset` arm of `ensure_unconfigured`: finish the reset. -/
def finishReqs (a : UInt16) : List (Msg × Option Msg) :=
  [(.requestOp a .finishReset, some (.ackOp a .finishReset)),
   (.hello a, some (.reportState a .unconfigured))]

/-- Its last arm (any other reply to the hello): start the reset, then finish it. -/
def startReqs (a : UInt16) : List (Msg × Option Msg) :=
  [(.requestOp a .startReset, some (.ackOp a .startReset)),
   (.hello a, some (.reportState a .readyToReset))] ++ finishReqs a

/-- `ensure_unconfigured`: "Ensures that the sign is in the `Unconfigured` state. If it already is,
    nothing to do. Otherwise start or finish a reset as appropriate": the successful conversations. -/
inductive EnsureOK (a : UInt16) : List Ex → Prop where
  | already : EnsureOK a [ans (.hello a) (some (.reportState a .unconfigured))]
  | finish : EnsureOK a (ans (.hello a) (some (.reportState a .readyToReset)) :: okConv (finishReqs a))
  | full (r : Option Msg) : r ≠ some (.reportState a .unconfigured) →
      r ≠ some (.reportState a .readyToReset) → EnsureOK a (ans (.hello a) r :: okConv (startReqs a))

/-- ... and the ways it ends early. -/
inductive EnsureStop (a : UInt16) : List Ex → Outcome α → Prop where
  | helloStarved : EnsureStop a [(.hello a, none)] .starved
  | helloBus : EnsureStop a [(.hello a, some .busError)] .bus
  | finish (c o) : MustFail (finishReqs a) c o →
      EnsureStop a (ans (.hello a) (some (.reportState a .readyToReset)) :: c) o
  | full (r : Option Msg) (c o) : r ≠ some (.reportState a .unconfigured) →
      r ≠ some (.reportState a .readyToReset) → MustFail (startReqs a) c o →
      EnsureStop a (ans (.hello a) r :: c) o

/-- The chunk messages of the configuration transfer: the 16-byte block of the sign type. -/
def cfgMsgs (t : SignType) : List Msg := allChunkMsgs [t.toBytes]

/-- `configure`: "If the sign has already been configured, it will be reset" (`ensure_unconfigured`), then
    the configuration is transferred (`send_data` with `ReceiveConfig`, 2 retries). -/
inductive ConfigureSpec (a : UInt16) (t : SignType) : List Ex → Outcome Unit → Prop where
  | ensureStop (c o) : EnsureStop a c o → ConfigureSpec a t c o
  | transfer (c1 c2 o) : EnsureOK a c1 →
      TransferSpec a (cfgMsgs t) .receiveConfig .configReceived .configFailed 2 c2 o →
      ConfigureSpec a t (c1 ++ c2) o

/-- `configure_if_needed`: "If the sign has already been configured and is in a state where it can
    receive pages, nothing will happen. Otherwise, it will be reset" (i.e. `configure`). -/
inductive ConfigureIfNeededSpec (a : UInt16) (t : SignType) : List Ex → Outcome Unit → Prop where
  | helloStarved : ConfigureIfNeededSpec a t [(.hello a, none)] .starved
  | helloBus : ConfigureIfNeededSpec a t [(.hello a, some .busError)] .bus
  | ready (s : State) : s ∈ readyStates →
      ConfigureIfNeededSpec a t [ans (.hello a) (some (.reportState a s))] (.ok ())
  | configure (r : Option Msg) (c o) : (∀ s ∈ readyStates, r ≠ some (.reportState a s)) →
      ConfigureSpec a t c o → ConfigureIfNeededSpec a t (ans (.hello a) r :: c) o

/-- `send_pages`: the pixel transfer (`send_data` with `ReceivePixels`, 2 retries); `PixelsComplete`, which
    must be met with silence; then one query, whose answer only selects the flip style returned. -/
inductive SendPagesSpec (a : UInt16) (pages : List (List UInt8)) :
    List Ex → Outcome FlipStyle → Prop where
  | transferStop (c) (o : Outcome Unit) : (∀ u, o ≠ .ok u) →
      TransferSpec a (allChunkMsgs pages) .receivePixels .pixelsReceived .pixelsFailed 2 c o →
      SendPagesSpec a pages c o.cast
  | completeStop (c1 c2 o) :
      TransferSpec a (allChunkMsgs pages) .receivePixels .pixelsReceived .pixelsFailed 2 c1 (.ok ()) →
      Stop (.pixelsComplete a) none c2 o → SendPagesSpec a pages (c1 ++ c2) o
  | queryStarved (c1) :
      TransferSpec a (allChunkMsgs pages) .receivePixels .pixelsReceived .pixelsFailed 2 c1 (.ok ()) →
      SendPagesSpec a pages (c1 ++ [ans (.pixelsComplete a) none, (.queryState a, none)]) .starved
  | queryBus (c1) :
      TransferSpec a (allChunkMsgs pages) .receivePixels .pixelsReceived .pixelsFailed 2 c1 (.ok ()) →
      SendPagesSpec a pages (c1 ++ [ans (.pixelsComplete a) none, (.queryState a, some .busError)]) .bus
  | automatic (c1) :
      TransferSpec a (allChunkMsgs pages) .receivePixels .pixelsReceived .pixelsFailed 2 c1 (.ok ()) →
      SendPagesSpec a pages
        (c1 ++ [ans (.pixelsComplete a) none, ans (.queryState a) (some (.reportState a .showingPages))])
        (.ok .automatic)
  | manual (c1) (r : Option Msg) : r ≠ some (.reportState a .showingPages) →
      TransferSpec a (allChunkMsgs pages) .receivePixels .pixelsReceived .pixelsFailed 2 c1 (.ok ()) →
      SendPagesSpec a pages (c1 ++ [ans (.pixelsComplete a) none, ans (.queryState a) r]) (.ok .manual)

/-- `shut_down`: `Goodbye`, which must be met with silence. -/
inductive ShutDownSpec (a : UInt16) : List Ex → Outcome Unit → Prop where
  | stop (c o) : Stop (.goodbye a) none c o → ShutDownSpec a c o
  | ok : ShutDownSpec a [ans (.goodbye a) none] (.ok ())

/-- `switch_page`: "Queries the sign's current state. If `target`, we're done. If `trigger`, request
    `operation`. Continue looping while the state is `PageLoadInProgress` or `PageShowInProgress`,
    waiting to enter `target`. Fails if any other state is reported."  (A sign that flips its own
    pages — `ShowingPages` — makes both calls no-ops.) -/
inductive SwitchSpec (a : UInt16) (target trigger : State) (op : Op) : List Ex → Outcome Unit → Prop where
  | queryStarved : SwitchSpec a target trigger op [(.queryState a, none)] .starved
  | queryBus : SwitchSpec a target trigger op [(.queryState a, some .busError)] .bus
  | showing : SwitchSpec a target trigger op [ans (.queryState a) (some (.reportState a .showingPages))] (.ok ())
  | reached : SwitchSpec a target trigger op [ans (.queryState a) (some (.reportState a target))] (.ok ())
  | requestStop (c o) : trigger ≠ .showingPages → trigger ≠ target →
      Stop (.requestOp a op) (some (.ackOp a op)) c o →
      SwitchSpec a target trigger op (ans (.queryState a) (some (.reportState a trigger)) :: c) o
  | requested (c o) : trigger ≠ .showingPages → trigger ≠ target →
      SwitchSpec a target trigger op c o →
      SwitchSpec a target trigger op
        (ans (.queryState a) (some (.reportState a trigger)) ::
          ans (.requestOp a op) (some (.ackOp a op)) :: c) o
  | waiting (s : State) (c o) : s ≠ .showingPages → s ≠ target → s ≠ trigger →
      s = .pageLoadInProgress ∨ s = .pageShowInProgress → SwitchSpec a target trigger op c o →
      SwitchSpec a target trigger op (ans (.queryState a) (some (.reportState a s)) :: c) o
  | unexpected (r : Option Msg) :
      (∀ s, r = some (.reportState a s) → s ≠ .showingPages ∧ s ≠ target ∧ s ≠ trigger ∧
        s ≠ .pageLoadInProgress ∧ s ≠ .pageShowInProgress) →
      SwitchSpec a target trigger op [ans (.queryState a) r] .proto
  | outOfFuel : SwitchSpec a target trigger op [] .outOfFuel   -- model artefact, see `switch_fuel_enough`

end Flipdot
